/- The reference the generated repair cascade and its correction tables are compared with (`Ref`), and the cascade as
`find?` over the numbered attempts: the first one that is applicable and passes its norm test. -/
import Iodata.Model.Cascade

namespace Iodata.Cascade

/-- The correction (basis fix, coefficient fix) that each warning text names. -/
def Warn.names : Warn → Option (BasisFix × CoeffFix)
  | .orca => some (.orca, .raw)
  | .psi4old => some (.psi4old, .raw)
  | .turbomole => some (.turbomole, .raw)
  | .cfour => some (.raw, .cfour)
  | .unnorm => some (.normalize, .raw)
  | .psi4new => some (.normalize, .psi4new)
  | .other => none

namespace Ref

/-- Hand-written reference of the cascade (transcribes molden.py:668-763).  Order matters:
ORCA before PSI4<=1.0 (they coincide on s,p), Turbomole before the generic re-normalisation (which would
also repair it but is only "a last resort"), CFOUR before PSI4<=1.3.2. -/
def cascade : List Attempt := [
  { warn := none, testBasis := .raw, testCoeff := .raw, guardBasis := false, guardCoeff := false,
    storeBasis := none, storeCoeff := none },
  { warn := some .orca, testBasis := .orca, testCoeff := .raw, guardBasis := false, guardCoeff := false,
    storeBasis := some .orca, storeCoeff := none },
  { warn := some .psi4old, testBasis := .psi4old, testCoeff := .raw, guardBasis := true, guardCoeff := false,
    storeBasis := some .psi4old, storeCoeff := none },
  { warn := some .turbomole, testBasis := .turbomole, testCoeff := .raw, guardBasis := true, guardCoeff := false,
    storeBasis := some .turbomole, storeCoeff := none },
  { warn := some .cfour, testBasis := .raw, testCoeff := .cfour, guardBasis := false, guardCoeff := true,
    storeBasis := some .raw, storeCoeff := some .cfour },
  { warn := some .unnorm, testBasis := .normalize, testCoeff := .raw, guardBasis := false, guardCoeff := false,
    storeBasis := some .normalize, storeCoeff := none },
  { warn := some .psi4new, testBasis := .normalize, testCoeff := .psi4new, guardBasis := false, guardCoeff := true,
    storeBasis := some .normalize, storeCoeff := some .psi4new }]

/-- monomial whose normalisation constant ORCA folds into the contraction coefficients -/
def orcaMono : Nat → Nat × Nat × Nat
  | 0 => (0, 0, 0) | 1 => (1, 0, 0) | 2 => (1, 1, 0) | 3 => (1, 1, 1) | 4 => (2, 1, 1) | _ => (5, 0, 0)

/-- `_fix_obasis_orca`: s, p and pure d..h shells carry the normalisation constant of `orcaMono` -/
def orcaScale (s : ShellType) : Scale :=
  if s.1 ≤ 1 ∨ (s.2 = 'p' ∧ s.1 ≤ 5) then .norm (monoQ (orcaMono s.1)) else .one

/-- `_fix_obasis_psi4`: s, p, pure d and f carry the normalisation constant of `x^l` -/
def psi4oldScale (s : ShellType) : Scale :=
  if s.1 ≤ 1 ∨ (s.2 = 'p' ∧ s.1 ≤ 3) then .norm (oddFact s.1) else .one

/-- `_fix_obasis_turbomole`: Cartesian d, f, g are off by the constant `1/√((2l-1)!!)` -/
def turbomoleScale (s : ShellType) : Scale :=
  if s.2 = 'c' ∧ 2 ≤ s.1 ∧ s.1 ≤ 4 then .const 1 (oddFact s.1) else .one

/-- a label of `CONVENTIONS` without its sign prefix -/
def strip : List Char → List Char
  | '-' :: r => r
  | l => l

/-- labels ORCA writes with the opposite sign -/
def orcaNegative (s : ShellType) : List (List Char) :=
  if s = (3, 'p') then [['c','3'], ['s','3']]
  else if s = (4, 'p') ∨ s = (5, 'p') then [['c','3'], ['s','3'], ['c','4'], ['s','4']] else []

end Ref

/-- the translator classified the correction and it divides by a positive number -/
def Scale.okPos : Scale → Bool
  | .one => true | .unit => true | .norm q => 0 < q | .const a b => 0 < a && 0 < b | .unknown => false

theorem lookup_isSome_eq_contains {β : Type} (l : List (ShellType × β)) (k : ShellType) :
    (l.lookup k).isSome = (l.map (·.1)).contains k := by
  induction l with
  | nil => rfl
  | cons e rest ih =>
    obtain ⟨k', v⟩ := e
    rw [List.map_cons, List.contains_cons, ← ih, List.lookup_cons]
    cases k == k' <;> rfl

/-- the attempt is not skipped by its guards and `_is_normalized_properly` accepts it -/
def passes (T : Tables) (sh : List ShellType) (ok : Nat → Bool) (p : Attempt × Nat) : Bool :=
  applicable T sh p.1 && ok p.2

theorem runFrom_eq_find (T : Tables) (sh : List ShellType) (ok : Nat → Bool) (as : List Attempt) (i : Nat) :
    runFrom T sh ok i as =
      match (as.zipIdx i).find? (passes T sh ok) with
      | some p => .loaded p.2 p.1
      | none => .loadError := by
  induction as generalizing i with
  | nil => rfl
  | cons a rest ih =>
    rw [runFrom, ih, List.zipIdx_cons, List.find?_cons, passes]
    cases applicable T sh a <;> cases ok i <;> rfl

theorem find?_zipIdx_eq_some {α : Type} (l : List α) (q : α × Nat → Bool) (a : α) (j : Nat) :
    l.zipIdx.find? q = some (a, j) ↔
      l[j]? = some a ∧ q (a, j) = true ∧ ∀ k b, k < j → l[k]? = some b → q (b, k) = false := by
  have at_idx : ∀ k (h : k < l.zipIdx.length), l.zipIdx[k] = (l[k]'(List.length_zipIdx ▸ h), k) := fun k h => by
    rw [List.getElem_zipIdx, Nat.zero_add]
  simp only [List.find?_eq_some_iff_getElem, at_idx, Bool.not_eq_true', List.getElem?_eq_some_iff, List.length_zipIdx]
  constructor
  · rintro ⟨hq, i, hi, hget, hprev⟩
    cases hget
    exact ⟨⟨hi, rfl⟩, hq, fun k b hk ⟨_, hb⟩ => hb ▸ hprev k hk⟩
  · rintro ⟨⟨hj, rfl⟩, hq, hprev⟩
    exact ⟨hq, j, hj, rfl, fun k hk => hprev k _ hk ⟨_, rfl⟩⟩

theorem find?_zipIdx_eq_none {α : Type} (l : List α) (q : α × Nat → Bool) :
    l.zipIdx.find? q = none ↔ ∀ k b, l[k]? = some b → q (b, k) = false := by
  rw [List.find?_eq_none]
  constructor
  · intro h k b hb; simpa using h (b, k) (List.mem_zipIdx_iff_getElem?.mpr hb)
  · intro h p hp; simpa using h p.2 p.1 (List.mem_zipIdx_iff_getElem?.mp hp)

theorem run_eq_loaded_iff (T : Tables) (as : List Attempt) (sh : List ShellType) (ok : Nat → Bool)
    (j : Nat) (a : Attempt) :
    run T as sh ok = .loaded j a ↔ as.zipIdx.find? (passes T sh ok) = some (a, j) := by
  rw [run, runFrom_eq_find]
  cases as.zipIdx.find? (passes T sh ok) with
  | none => exact ⟨nofun, nofun⟩
  | some p => exact ⟨fun h => by cases h; rfl, fun h => by cases h; rfl⟩

theorem run_eq_loadError_iff (T : Tables) (as : List Attempt) (sh : List ShellType) (ok : Nat → Bool) :
    run T as sh ok = .loadError ↔ as.zipIdx.find? (passes T sh ok) = none := by
  rw [run, runFrom_eq_find]
  cases as.zipIdx.find? (passes T sh ok) with
  | none => exact ⟨fun _ => rfl, fun _ => rfl⟩
  | some p => exact ⟨nofun, nofun⟩

theorem testsFrom_prefix (T : Tables) (sh : List ShellType) (ok : Nat → Bool) (as : List Attempt) (i : Nat) :
    testsFrom T sh ok i as <+:
      ((as.zipIdx i).filter fun p => applicable T sh p.1).map fun p => (p.2, ok p.2) := by
  induction as generalizing i with
  | nil => exact List.prefix_rfl
  | cons a rest ih =>
    rw [testsFrom, List.zipIdx_cons, List.filter_cons]
    cases applicable T sh a with
    | false => exact ih (i + 1)
    | true =>
      simp only [if_true, List.map_cons]
      cases ok i with
      | true => exact ⟨_, rfl⟩
      | false => exact (List.prefix_cons_inj _).mpr (ih (i + 1))

end Iodata.Cascade
