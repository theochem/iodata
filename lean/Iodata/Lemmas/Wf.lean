/- C01: what a coefficient vector denotes under conversion, under the WFN/WFX writer and reader, and under
   sorting the shells by centre. -/
import Iodata.Lemmas.Conv
import Iodata.Model.Wf

-- `[DecidableEq β]` is a section variable that a few statements below carry without using it
set_option linter.unusedSectionVars false

namespace Iodata.Wf
open Iodata.Conv

theorem den_convert_shells (cv1 cv2 : Cv) : ∀ (shells : List Shell),
    (∀ s ∈ shells, Compatible (cv1 s.key) (cv2 s.key)) →
    ∀ (coeffs : List Int) (κ : PKey), den cv2 shells (convert cv1 cv2 shells coeffs) κ = den cv1 shells coeffs κ
  | [], _, _, _ => by simp [den]
  | s :: ss, hc, coeffs, κ => by
    have h := hc s (by simp)
    have hlen : (apply (convFwd (cv1 s.key) (cv2 s.key)) (coeffs.take (cv1 s.key).length)).length
        = (cv2 s.key).length := by simp
    simp only [den, convert]
    rw [List.take_left' hlen, List.drop_left' hlen, shellDen, shellDen, val_apply_convFwd h,
      den_convert_shells cv1 cv2 ss (fun t ht => hc t (by simp [ht]))]

section rows
variable {β : Type} [DecidableEq β]

theorem getD_zipmap (f : Int × β → Int) (hf : ∀ l, f (0, l) = 0) (w : List Int) (L : List β) (i : Nat)
    (hi : i < L.length) : ((w.zip L).map f).getD i 0 = f (w.getD i 0, L[i]) := by
  simp only [List.getD_eq_getElem?_getD, List.getElem?_map]
  cases hw : w[i]? <;> simp [List.zip_eq_zipWith, List.getElem?_zipWith, hw, hi, hf]

theorem val_zipmap (g : Int → β → Int) (hg : ∀ l, g 0 l = 0)
    (c : List (Bool × β)) (w : List Int) (x : β) :
    val c ((w.zip (labels c)).map fun p => g p.1 p.2) x
      = (signs c).getD ((labels c).idxOf x) 0 * g (w.getD ((labels c).idxOf x) 0) x := by
  unfold val
  by_cases hx : x ∈ labels c
  · have hi : (labels c).idxOf x < (labels c).length := List.idxOf_lt_length_iff.mpr hx
    rw [getD_zipmap (fun p => g p.1 p.2) (by simpa using hg) w (labels c) _ hi]
    have : (labels c)[(labels c).idxOf x] = x := List.getElem_idxOf _
    simp only [this]
  · have e1 : (labels c).idxOf x = (labels c).length := List.idxOf_eq_length hx
    have : (signs c).getD ((labels c).idxOf x) 0 = 0 := by
      rw [e1]; simp [List.getD_eq_getElem?_getD]
    rw [this]; simp

end rows

theorem val_scaleRow (N : Nat → Label → Int) (e : Nat) (d : Int) (c : List (Bool × Label)) (w : List Int)
    (x : Label) : val c (scaleRow N e d w (labels c)) x = val c w x * d * N e x := by
  unfold scaleRow
  rw [val_zipmap (fun a l => a * d * N e l) (by simp)]
  unfold val
  simp [Int.mul_assoc]

section noSignFlips
variable {β : Type} [DecidableEq β]

/-- the model's `plus` for labels of any type -/
def plusG (L : List β) : List (Bool × β) := L.map fun x => (false, x)

/-- conventions without sign flips -/
def Pos (c : List (Bool × β)) : Prop := ∀ p ∈ c, p.1 = false

theorem pos_plusG (L : List β) : Pos (plusG L) := by
  intro p hp; simp [plusG] at hp; obtain ⟨_, _, rfl⟩ := hp; rfl

theorem labels_plusG (L : List β) : labels (plusG L) = L := by
  simp [labels, plusG, List.map_map, Function.comp_def]

theorem plusG_labels (c : List (Bool × β)) (h : Pos c) : plusG (labels c) = c := by
  simp only [plusG, labels, List.map_map, Function.comp_def]
  conv => rhs; rw [← List.map_id c]
  apply List.map_congr_left
  intro p hp
  have := h p hp
  cases p; simp_all

theorem signs_pos_getD (c : List (Bool × β)) (h : Pos c) (i : Nat) :
    (signs c).getD i 0 = if i < (labels c).length then 1 else 0 := by
  simp only [signs, labels, List.length_map, List.getD_eq_getElem?_getD, List.getElem?_map]
  by_cases hi : i < c.length
  · have := h c[i] (List.getElem_mem hi)
    simp [hi, sgnB, this]
  · have : c[i]? = none := by rw [List.getElem?_eq_none_iff]; omega
    simp [hi]

theorem val_pos (c : List (Bool × β)) (h : Pos c) (w : List Int) (x : β) :
    val c w x = if (labels c).idxOf x < (labels c).length then w.getD ((labels c).idxOf x) 0 else 0 := by
  unfold val
  rw [signs_pos_getD c h]; split <;> simp

theorem val_divRow (N : Nat → β → Int) (e : Nat) (c : List (Bool × β)) (h : Pos c)
    (u : List Int) (x : β) :
    val c ((u.zip (labels c)).map fun p => p.1 / N e p.2) x = val c u x / N e x := by
  rw [val_zipmap (fun a l => a / N e l) (by simp)]
  rw [val_pos c h u x, signs_pos_getD c h]; split <;> simp

end noSignFlips

theorem plus_eq_plusG (L : List Label) : plus L = plusG L := rfl

theorem plus_labels (c : List (Bool × Label)) (h : Pos c) : plus (labels c) = c :=
  (plus_eq_plusG _).trans (plusG_labels c h)

theorem fileDen_append (a b : List Batch) (κ : PKey) : fileDen (a ++ b) κ = fileDen a κ + fileDen b κ := by
  simp [fileDen, List.sum_append]

/-- summing a shell's contribution primitive by primitive: only the primitives with exponent id `ke` count, and
their contraction coefficients add up to `expSum prims ke` -/
theorem sum_prims (B : Bool) (A : Int) (ke : Nat) (F : Nat → Int) : ∀ (prims : List (Nat × Int)),
    (prims.map fun p => if (B && decide (ke = p.1)) = true then A * p.2 * F p.1 else 0).sum
      = if B = true then A * expSum prims ke * F ke else 0
  | [] => by simp [expSum]
  | p :: ps => by
    simp only [List.map_cons, List.sum_cons, sum_prims B A ke F ps, expSum]
    cases B <;> simp
    by_cases h : ke = p.1
    · subst h
      simp
      -- `A * p.2 * F + A * S * F = A * (p.2 + S) * F`
      rw [Int.mul_add, Int.add_mul]
    · have h' : ¬ (p.1 = ke) := fun e => h e.symm
      simp [h, h']

theorem batchDen_wfn (N : Nat → Label → Int) (c1 c2 : List (Bool × Label)) (s : Shell) (v : List Int)
    (hk : s.kind = 'c') (hp : Pos c2) (hc : Compatible c1 c2) (p : Nat × Int) (κ : PKey) :
    batchDen (wfnBatch N s (labels c2) (labels c2) (apply (convFwd c1 c2) v) p) κ
      = if (onShell s κ && decide (κ.2.1 = p.1)) = true then val c1 v κ.2.2.2.2 * p.2 * N p.1 κ.2.2.2.2 else 0 := by
  unfold batchDen onShell wfnBatch
  simp only [hk]
  rw [plus_labels c2 hp, val_scaleRow, val_apply_convFwd hc]

theorem fileDen_wfnShell (N : Nat → Label → Int) (c1 c2 : List (Bool × Label)) (s : Shell) (v : List Int)
    (hk : s.kind = 'c') (hp : Pos c2) (hc : Compatible c1 c2) (κ : PKey) :
    fileDen (wfnShell false N c1 c2 s v) κ = shellDen s c1 v κ * N κ.2.1 κ.2.2.2.2 := by
  unfold wfnShell fileDen
  simp only [List.map_map, Function.comp_def, Bool.false_eq_true, if_false]
  rw [List.map_congr_left fun p _ => batchDen_wfn N c1 c2 s v hk hp hc p κ,
    sum_prims (onShell s κ) (val c1 v κ.2.2.2.2) κ.2.1 (fun e => N e κ.2.2.2.2)]
  unfold shellDen
  cases onShell s κ <;> simp

/-- denotation of the object the reader builds, batch by batch -/
def loadDen (N : Nat → Label → Int) (cvW : Cv) (bs : List Batch) (κ : PKey) : Int :=
  (bs.map fun b =>
    shellDen (loadBatch N (cvW (b.l, 'c')) b).1 (cvW (b.l, 'c')) (loadBatch N (cvW (b.l, 'c')) b).2 κ).sum

theorem loadBatch_length (N : Nat → Label → Int) (cW : List (Bool × Label)) (b : Batch) :
    (loadBatch N cW b).2.length = cW.length := by
  simp [loadBatch]

theorem loadBatch_key (N : Nat → Label → Int) (cW : List (Bool × Label)) (b : Batch) :
    (loadBatch N cW b).1.key = (b.l, 'c') := by
  simp [loadBatch, Shell.key]

theorem den_wfnLoad (N : Nat → Label → Int) (cvW : Cv) : ∀ (bs : List Batch) (κ : PKey),
    den cvW (wfnLoad N cvW bs).1 (wfnLoad N cvW bs).2 κ = loadDen N cvW bs κ
  | [], κ => by simp [wfnLoad, den, loadDen]
  | b :: bs, κ => by
    have ih := den_wfnLoad N cvW bs κ
    simp only [wfnLoad, List.map_cons, List.flatMap_cons, den, loadDen, List.sum_cons] at ih ⊢
    rw [loadBatch_key]
    rw [List.take_left' (loadBatch_length N _ b), List.drop_left' (loadBatch_length N _ b), ih]

theorem loadDen_append (N : Nat → Label → Int) (cvW : Cv) (a b : List Batch) (κ : PKey) :
    loadDen N cvW (a ++ b) κ = loadDen N cvW a κ + loadDen N cvW b κ := by
  simp [loadDen, List.sum_append]

theorem loadBatch_wfn (N : Nat → Label → Int) (hN : ∀ e l, N e l ≠ 0) (cvW : Cv) (c1 c2 : List (Bool × Label))
    (s : Shell) (v : List Int) (hk : s.kind = 'c') (hp : Pos c2) (hc : Compatible c1 c2)
    (hcv : cvW (s.l, 'c') = c2) (p : Nat × Int) (κ : PKey) :
    let b := wfnBatch N s (labels c2) (labels c2) (apply (convFwd c1 c2) v) p
    shellDen (loadBatch N (cvW (b.l, 'c')) b).1 (cvW (b.l, 'c')) (loadBatch N (cvW (b.l, 'c')) b).2 κ
      = if (onShell s κ && decide (κ.2.1 = p.1)) = true then val c1 v κ.2.2.2.2 * p.2 * 1 else 0 := by
  show shellDen (loadBatch N (cvW (s.l, 'c')) _).1 (cvW (s.l, 'c')) (loadBatch N (cvW (s.l, 'c')) _).2 κ = _
  rw [hcv]
  unfold shellDen loadBatch wfnBatch onShell
  simp only [hk]
  rw [val_divRow N p.1 c2 hp, plus_labels c2 hp, val_apply_convFwd (hc.symm.trans hc), val_scaleRow,
    val_apply_convFwd hc, Int.mul_ediv_cancel _ (hN _ _)]
  simp only [expSum, List.map_cons, List.map_nil, List.sum_cons, List.sum_nil]
  by_cases h : κ.2.1 = p.1
  · simp [h]
  · have h' : ¬ (p.1 = κ.2.1) := fun e => h e.symm
    simp [h, h']

theorem loadDen_wfnShell (N : Nat → Label → Int) (hN : ∀ e l, N e l ≠ 0) (cvW : Cv)
    (c1 c2 : List (Bool × Label)) (s : Shell) (v : List Int) (hk : s.kind = 'c') (hp : Pos c2) (hc : Compatible c1 c2)
    (hcv : cvW (s.l, 'c') = c2) (κ : PKey) :
    loadDen N cvW (wfnShell false N c1 c2 s v) κ = shellDen s c1 v κ := by
  unfold wfnShell loadDen
  simp only [List.map_map, Function.comp_def, Bool.false_eq_true, if_false]
  rw [List.map_congr_left fun p _ => loadBatch_wfn N hN cvW c1 c2 s v hk hp hc hcv p κ,
    sum_prims (onShell s κ) (val c1 v κ.2.2.2.2) κ.2.1 (fun _ => 1)]
  unfold shellDen
  cases onShell s κ <;> simp

/-- denotation of a list of (shell, coefficient block) pairs -/
def denPairs (cv : Cv) (ps : List (Shell × List Int)) (κ : PKey) : Int :=
  (ps.map fun p => shellDen p.1 (cv p.1.key) p.2 κ).sum

theorem den_eq_denPairs (cv : Cv) : ∀ (shells : List Shell) (coeffs : List Int) (κ : PKey),
    den cv shells coeffs κ = denPairs cv (blocks cv shells coeffs) κ
  | [], _, _ => by simp [den, blocks, denPairs]
  | s :: ss, coeffs, κ => by
    have ih := den_eq_denPairs cv ss (coeffs.drop (cv s.key).length) κ
    simp only [den, blocks, denPairs, List.map_cons, List.sum_cons] at ih ⊢
    rw [ih]

/-! Sorting permutes; what the theorems need of the sorted lists (denotation, block lengths, membership,
number of functions) is invariant under permutation. -/

theorem insertPair_perm (p : Shell × List Int) : ∀ (ps : List (Shell × List Int)), (insertPair p ps).Perm (p :: ps)
  | [] => .refl _
  | t :: ts => by
    simp only [insertPair]
    split
    · exact .refl _
    · exact ((insertPair_perm p ts).cons t).trans (.swap p t ts)

theorem sortPairs_perm : ∀ (ps : List (Shell × List Int)), (sortPairs ps).Perm ps
  | [] => .refl _
  | p :: ps => (insertPair_perm p _).trans ((sortPairs_perm ps).cons p)

theorem insertByCenter_perm (s : Shell) : ∀ (ts : List Shell), (insertByCenter s ts).Perm (s :: ts)
  | [] => .refl _
  | t :: ts => by
    simp only [insertByCenter]
    split
    · exact .refl _
    · exact ((insertByCenter_perm s ts).cons t).trans (.swap s t ts)

theorem sortByCenter_perm : ∀ (ss : List Shell), (sortByCenter ss).Perm ss
  | [] => .refl _
  | s :: ss => (insertByCenter_perm s _).trans ((sortByCenter_perm ss).cons s)

theorem denPairs_sort (cv : Cv) (κ : PKey) (ps : List (Shell × List Int)) :
    denPairs cv (sortPairs ps) κ = denPairs cv ps κ :=
  perm_sum_map _ (sortPairs_perm ps)

theorem nfun_sort (cv : Cv) (ss : List Shell) : nfun cv (sortByCenter ss) = nfun cv ss :=
  ((sortByCenter_perm ss).map _).sum_nat

/-- every coefficient block is as long as the convention of its shell -/
def GoodBlocks (cv : Cv) (ps : List (Shell × List Int)) : Prop := ∀ p ∈ ps, p.2.length = (cv p.1.key).length

theorem den_of_pairs (cv : Cv) : ∀ (ps : List (Shell × List Int)), GoodBlocks cv ps → ∀ κ,
    den cv (ps.map (·.1)) (ps.flatMap (·.2)) κ = denPairs cv ps κ
  | [], _, _ => by simp [den, denPairs]
  | p :: ps, h, κ => by
    have hp := h p (by simp)
    have ih := den_of_pairs cv ps (fun q hq => h q (by simp [hq])) κ
    simp only [List.map_cons, List.flatMap_cons, den, denPairs, List.sum_cons] at ih ⊢
    rw [List.take_left' hp, List.drop_left' hp, ih]

theorem good_sort (cv : Cv) (ps : List (Shell × List Int)) (h : GoodBlocks cv ps) : GoodBlocks cv (sortPairs ps) :=
  fun q hq => h q ((sortPairs_perm ps).mem_iff.mp hq)

theorem good_blocks_convert (cv1 cv2 : Cv) : ∀ (shells : List Shell) (coeffs : List Int),
    GoodBlocks cv2 (blocks cv2 shells (convert cv1 cv2 shells coeffs))
  | [], _ => by intro q hq; simp [blocks] at hq
  | s :: ss, coeffs => by
    have hlen : (apply (convFwd (cv1 s.key) (cv2 s.key)) (coeffs.take (cv1 s.key).length)).length
        = (cv2 s.key).length := by simp
    intro q hq
    simp only [blocks, convert, List.take_left' hlen, List.drop_left' hlen, List.mem_cons] at hq
    rcases hq with rfl | hq
    · exact hlen
    · exact good_blocks_convert cv1 cv2 ss _ q hq

theorem map_fst_insertPair (p : Shell × List Int) : ∀ (ps : List (Shell × List Int)),
    (insertPair p ps).map (·.1) = insertByCenter p.1 (ps.map (·.1))
  | [] => rfl
  | t :: ts => by
    simp only [insertPair, List.map_cons, insertByCenter]
    split
    · simp
    · simp [map_fst_insertPair p ts]

theorem map_fst_sortPairs : ∀ (ps : List (Shell × List Int)),
    (sortPairs ps).map (·.1) = sortByCenter (ps.map (·.1))
  | [] => rfl
  | p :: ps => by
    simp only [sortPairs, List.map_cons, sortByCenter, map_fst_insertPair, map_fst_sortPairs ps]

theorem map_fst_blocks (cv : Cv) : ∀ (shells : List Shell) (coeffs : List Int),
    (blocks cv shells coeffs).map (·.1) = shells
  | [], _ => rfl
  | s :: ss, coeffs => by simp [blocks, map_fst_blocks cv ss]

theorem length_pairs (cv : Cv) : ∀ (ps : List (Shell × List Int)), GoodBlocks cv ps →
    (ps.flatMap (·.2)).length = nfun cv (ps.map (·.1))
  | [], _ => by simp [nfun]
  | p :: ps, h => by
    have hp := h p (by simp)
    have ih := length_pairs cv ps (fun q hq => h q (by simp [hq]))
    simp only [List.flatMap_cons, List.length_append, List.map_cons, nfun, List.sum_cons] at ih ⊢
    rw [hp, ih]

/-- the rows of the writers that sort by centre: the shells come out sorted, there are as many numbers as
basis functions, and they denote the same orbital -/
theorem sortedRows_spec (cv1 cvM : Cv) (shells : List Shell)
    (hc : ∀ s ∈ shells, Compatible (cv1 s.key) (cvM s.key)) (coeffs : List Int) :
    (sortPairs (blocks cvM shells (convert cv1 cvM shells coeffs))).map (·.1) = sortByCenter shells ∧
    ((sortPairs (blocks cvM shells (convert cv1 cvM shells coeffs))).flatMap (·.2)).length = nfun cvM shells ∧
    ∀ κ, den cvM (sortByCenter shells)
        ((sortPairs (blocks cvM shells (convert cv1 cvM shells coeffs))).flatMap (·.2)) κ
      = den cv1 shells coeffs κ := by
  have hgood := good_sort cvM _ (good_blocks_convert cv1 cvM shells coeffs)
  have hfst : (sortPairs (blocks cvM shells (convert cv1 cvM shells coeffs))).map (·.1) = sortByCenter shells := by
    rw [map_fst_sortPairs, map_fst_blocks]
  refine ⟨hfst, ?_, fun κ => ?_⟩
  · rw [length_pairs cvM _ hgood, hfst, nfun_sort]
  · rw [← hfst, den_of_pairs cvM _ hgood, denPairs_sort, ← den_eq_denPairs, den_convert_shells cv1 cvM shells hc]

end Iodata.Wf
