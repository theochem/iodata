/- POSCAR text layer: number lines, element/count lines, the switches, C02 and C15 on top of the structure layer. -/
import Iodata.Lemmas.Fmt.Poscar
import Iodata.Lemmas.Fmt.Fchk
import Iodata.Lemmas.Fmt.Fields
import Iodata.Model.Fmt.PoscarW
namespace Iodata.Fmt.PoscarW
open Iodata.Chars Iodata.Decimal Iodata.Fmt Iodata.Fmt.Poscar

/-- the words of `lead ++ "{a: w.df} {b: w.df} {c: w.df}" ++ tail` -/
theorem vec3_words (L : Layout) (lead : Str) (hl : AllWs lead) (v : V3) (tail : Str) (ht : Brk tail) :
    splitWs (lead ++ (vec3 L v ++ tail)) =
      [fixCore false L.d v.a, fixCore false L.d v.b, fixCore false L.d v.c] ++ splitWs tail := by
  have e : vec3 L v = joinSp (([v.a, v.b, v.c].map (fixP true L.w L.d)).map Padded.render) := by
    simp [vec3, num, joinSp, List.intercalate, render_fixP]
  rw [splitWs_allWs_append lead _ hl, e, splitWs_joinSp_padded _ tail (by simp [fixP_ok]) ht]
  rfl

theorem optAll_toks (d : Nat) (v : V3) :
    optAll (pyFix d) [fixCore false d v.a, fixCore false d v.b, fixCore false d v.c] = some [v.a, v.b, v.c] := by
  simp [optAll, pyFix_fixCore_self]

theorem readVec_cellLine (L : Layout) (v : V3) : readVec L.d (splitWs (cellLine L v)) = .ok v := by
  have h := vec3_words L [] allWs_nil v ['\n'] (brk_nl _)
  simp only [List.nil_append] at h
  unfold cellLine readVec
  rw [h, splitWs_nl, List.append_nil, optAll_toks]

theorem readPos_atomLine (L : Layout) (hlead : AllWs L.lead) (htail : brkB (L.tail ++ ['\n']) = true) (a : Atom) :
    readPos L.d (atomLine L a) = .ok a.pos := by
  have h := vec3_words L L.lead hlead a.pos (L.tail ++ ['\n']) (brk_of_brkB htail)
  unfold atomLine readPos readVec
  rw [h, List.take_left' (l₁ := [_, _, _]) (i := 3) rfl, optAll_toks]

theorem okZ_spec {T : Tables} {z : Nat} (h : okZ T z = true) : NoWs (T.sym z) ∧ T.sym z ≠ [] ∧ T.num? (T.sym z) = some z := by
  unfold okZ at h
  cases e : T.sym? z with
  | none => simp [e] at h
  | some s =>
    simp only [e, Bool.and_eq_true, decide_eq_true_eq, Bool.not_eq_true', beq_iff_eq] at h
    simp only [Tables.sym, e, Option.getD_some]
    exact ⟨h.1.1, by intro hs; subst hs; simp at h, h.2⟩

theorem okZ_of_entry {T : Tables} {z : Nat} {s : Str} (hs : T.sym? z = some s) (hn : T.num? s = some z)
    (hw : NoWs s) (hne : s ≠ []) : okZ T z = true := by
  cases s with
  | nil => exact absurd rfl hne
  | cons c s => simp [okZ, hs, hn, hw]

theorem optAll_map {α β γ} (f : α → Option β) (g : γ → α) (k : γ → β) : ∀ (l : List γ), (∀ x ∈ l, f (g x) = some (k x)) →
    optAll f (l.map g) = some (l.map k) := by
  intro l
  induction l with
  | nil => intro _; rfl
  | cons x l ih =>
    intro h
    simp only [List.map_cons, optAll, h x List.mem_cons_self, ih (fun y hy => h y (List.mem_cons_of_mem _ hy))]

theorem elemLine_read (T : Tables) (L : Layout) (cs : List (Nat × Nat)) (h : ∀ p ∈ cs, okZ T p.1 = true) :
    optAll T.num? (splitWs (elemLine T L cs)) = some (cs.map (·.1)) := by
  let pads : List Padded := cs.map fun p => ⟨[], T.sym p.1, spaces (L.symW - (T.sym p.1).length)⟩
  have hr : elemLine T L cs = joinSp (pads.map Padded.render) ++ ['\n'] := by
    simp [elemLine, pads, Padded.render, ljust, List.map_map, Function.comp_def]
  have hok : ∀ x ∈ pads, x.OK := by
    intro x hx
    obtain ⟨p, hp, rfl⟩ := List.mem_map.mp hx
    exact ⟨allWs_nil, (okZ_spec (h p hp)).1, (okZ_spec (h p hp)).2.1, allWs_spaces _⟩
  rw [hr, splitWs_joinSp_padded pads ['\n'] hok (brk_nl []), splitWs_nl, List.append_nil]
  simp only [pads, List.map_map, Function.comp_def]
  apply optAll_map
  exact fun p hp => (okZ_spec (h p hp)).2.2

theorem countLine_read (L : Layout) (cs : List (Nat × Nat)) :
    optAll pyInt (splitWs (countLine L cs)) = some (cs.map fun p => (p.2 : Int)) := by
  have hr : countLine L cs = joinSp ((cs.map fun p => intP L.cntW (p.2 : Int)).map Padded.render) ++ ['\n'] := by
    simp [countLine, render_intP, List.map_map, Function.comp_def]
  rw [hr, splitWs_joinSp_padded _ ['\n'] ?_ (brk_nl []), splitWs_nl, List.append_nil, List.map_map]
  · exact optAll_map _ _ _ _ fun p _ => pyInt_intToDec_self (p.2 : Int)
  · intro x hx
    obtain ⟨p, _, rfl⟩ := List.mem_map.mp hx
    exact intP_ok _ _

theorem zip_fst_snd (cs : List (Nat × Nat)) :
    ((cs.map (·.1)).zip (cs.map fun p => (p.2 : Int))).map (fun p => (p.1, p.2.toNat)) = cs := by
  induction cs with
  | nil => rfl
  | cons p cs ih => simp [ih]

theorem mkAtoms_map (as : List Atom) : mkAtoms (as.map (·.zn)) (as.map (·.pos)) = as := by
  induction as with
  | nil => rfl
  | cons a as ih => simp [mkAtoms, ih]

theorem okTitle_spec {t : Str} (h : okTitle t = true) : Trimmed t := (trimmed_one_line h).1

theorem okTitle_outTitle (L : Layout) (hL : LayoutOK L) (t : Str) (h : okTitle t = true) : okTitle (outTitle L t) = true :=
  orDefault_ok (P := fun t => okTitle t = true) hL.2.2.2.2.2.1 h

theorem headIs_cons {p : Char → Bool} {s : Str} (h : headIs p s = true) : ∃ c r, s = c :: r ∧ p c = true := by
  cases s with
  | nil => simp [headIs] at h
  | cons c r => exact ⟨c, r, rfl, h⟩

/-- C02 for the POSCAR text: every title, every cell, every list of atoms (any number, any elements of the table, any
order): the numbers of the file are read back digit by digit and the atoms come back grouped by element -/
theorem load_dump (T : Tables) (L : Layout) (hL : LayoutOK L) (o : Obj) (h : Dom T o) :
    load T L (dump T L o) = .ok (norm L o) := by
  obtain ⟨ht, hc, hz⟩ := h
  obtain ⟨hscale, hsel, hdir, hlead, htail, _, _⟩ := hL
  obtain ⟨title, cell, atoms⟩ := o
  simp only at ht hc hz
  match cell, hc with
  | [r0, r1, r2], _ =>
    have htitle : strip (outTitle L title ++ ['\n']) = outTitle L title :=
      strip_ln (okTitle_spec (okTitle_outTitle L ⟨hscale, hsel, hdir, hlead, htail, ‹_›, ‹_›⟩ _ ht))
    obtain ⟨sv, hsv⟩ := Option.isSome_iff_exists.mp hscale
    have hcs : ∀ p ∈ counts (·.zn) atoms, okZ T p.1 = true := by
      intro p hp
      simp only [counts, List.mem_map] at hp
      obtain ⟨z, hzm, rfl⟩ := hp
      obtain ⟨a, ha, rfl⟩ := List.mem_map.mp ((mem_uniqDesc _ z).mp hzm)
      exact hz a ha
    have hkeys := group_keys (·.zn) atoms
    obtain ⟨cs, rs, hse, hsp⟩ := headIs_cons hsel
    obtain ⟨cd, rd, hde, hdp⟩ := headIs_cons hdir
    simp only [Bool.and_eq_true, Bool.not_eq_true'] at hdp
    have hatoms := readN_map (readPos L.d) (atomLine L) (·.pos) (group (·.zn) atoms) []
      (fun a _ => readPos_atomLine L hlead htail a)
    simp only [List.append_nil] at hatoms
    have hlen : (expand (counts (·.zn) atoms)).length = (group (·.zn) atoms).length := by
      rw [← hkeys, List.length_map]
    simp only [dump, load, List.map_cons, List.map_nil, List.cons_append, List.nil_append, hsv, readVec_cellLine,
      elemLine_read T L _ hcs, countLine_read, zip_fst_snd, loadTail, hse, hde, hsp, if_true, hlen, hatoms]
    simp only [norm, scaleVal, hsv, Option.getD_some, htitle, hdp.2, ← hkeys, mkAtoms_map]

theorem outTitle_idem (L : Layout) (hne : L.defaultTitle ≠ []) (t : Str) : outTitle L (outTitle L t) = outTitle L t :=
  orDefault_idem hne t

theorem norm_idem (L : Layout) (hL : LayoutOK L) (o : Obj) : norm L (norm L o).obj = norm L o := by
  simp [norm, Loaded.obj, outTitle_idem L hL.2.2.2.2.2.2, group_idem]

theorem dom_norm (T : Tables) (L : Layout) (hL : LayoutOK L) (o : Obj) (h : Dom T o) : Dom T (norm L o).obj := by
  obtain ⟨ht, hc, hz⟩ := h
  refine ⟨okTitle_outTitle L hL _ ht, hc, ?_⟩
  intro a ha
  have ha' : a ∈ group (fun x : Atom => x.zn) o.atoms := ha
  exact hz a ((group_perm (fun x : Atom => x.zn) o.atoms).mem_iff.mp ha')

end Iodata.Fmt.PoscarW
