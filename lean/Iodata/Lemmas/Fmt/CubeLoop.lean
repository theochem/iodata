/- Cube: where the writer's counter loop and the closed form put their newlines does not depend on how a value is printed. -/
import Iodata.Model.Fmt.Cube
namespace Iodata.Fmt.Cube
open Iodata.Chars Iodata.Decimal Iodata.Fmt

/-- `dataLoop` with the values left as they are; `none` stands for a newline -/
def loopT (per bs : Nat) : Nat → List Sci → List (Option Sci)
  | _, [] => []
  | c, v :: vs =>
    some v :: ((if c % per = per - 1 then [none] else []) ++
      (if bs % per ≠ 0 ∧ c % bs = bs - 1 then none :: loopT per bs 0 vs else loopT per bs (c + 1) vs))

/-- the closed form likewise: every group of values is followed by a newline -/
def linesT (L : Layout) (bs : Nat) (data : List Sci) : List (Option Sci) :=
  (dataChunks L bs data).flatMap fun ch => ch.map some ++ [none]

def put (L : Layout) : Option Sci → Str
  | some v => val L v
  | none => ['\n']

theorem dataLoop_eq (L : Layout) (bs : Nat) (c : Nat) (data : List Sci) :
    dataLoop L bs c data = (loopT L.per bs c data).flatMap (put L) := by
  induction data generalizing c with
  | nil => rfl
  | cons v vs ih => simp only [dataLoop, loopT]; split <;> split <;> simp [put, ih]

theorem dataLines_eq (L : Layout) (bs : Nat) (data : List Sci) :
    (dataLines L bs data).flatten = (linesT L bs data).flatMap (put L) := by
  simp [dataLines, linesT, Fchk.dataLine, List.flatMap_assoc, List.flatten_eq_flatMap, List.flatMap_map, put]

end Iodata.Fmt.Cube
