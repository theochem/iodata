/- MOL2: records split on whitespace, the section loop, whole files. -/
import Iodata.Lemmas.Fmt.Fields
import Iodata.Model.Fmt.Mol2
namespace Iodata.Fmt.Mol2
open Iodata.Chars Iodata.Decimal Iodata.Fmt

theorem fmtInt_nat (w n : Nat) : fmtInt w (n : Int) = spaces (w - (natToDec n).length) ++ natToDec n := rfl

theorem okZ_spec {T : Tables} {z : Nat} (h : okZ T z = true) :
    ∃ s, T.sym? z = some s ∧ NoWs s ∧ s ≠ [] ∧
      ((T.num? (title (s.take 2))).or (T.num? ((title (s.take 2)).take 1))).getD 0 = z := by
  unfold okZ at h
  cases e : T.sym? z with
  | none => simp [e] at h
  | some s =>
    simp only [e, Bool.and_eq_true, decide_eq_true_eq, Bool.not_eq_true', beq_iff_eq] at h
    refine ⟨s, rfl, h.1.1.1, ?_, h.2⟩
    intro hs; subst hs; simp at h

theorem title_take_ne (s : Str) (h : s ≠ []) : (title (s.take 2)).isEmpty = false := by
  cases s with
  | nil => exact absurd rfl h
  | cons c r => simp [title, titleGo]

theorem okType_spec {s : Str} (h : okType s = true) : NoWs s ∧ s ≠ [] := by
  simpa [okType] using h

/-- the atom type that is written, the element symbol when none is given, is a word -/
theorem AtomOK.type {T : Tables} {a : Atom} (h : AtomOK T a) : okType (a.attype.getD (T.sym a.zn)) = true := by
  obtain ⟨s, hs, hnw, hne, -⟩ := okZ_spec h.1
  obtain ⟨zn, x, y, z, _ | t, q⟩ := a
  · simpa [okType, Tables.sym, hs] using ⟨hnw, hne⟩
  · exact h.2

theorem readAtom_atomLine (T : Tables) (L : Layout) (hL : LayoutOK T L) (k : Nat) (a : Atom) (ha : AtomOK T a) :
    readAtom T L (atomLine T L k a) = .ok (normAtom T a) := by
  obtain ⟨s, hs, hnw, hne, hz⟩ := okZ_spec ha.1
  have hsym : T.sym a.zn = s := by simp [Tables.sym, hs]
  have hty := hsym ▸ okType_spec ha.type
  have e : atomLine T L k a = ([intP L.idW (k + 1 : Nat), (ljustP L.symW s).sp, (fixP false L.xW L.cD a.x).sp,
      (fixP false L.yW L.cD a.y).sp, (fixP false L.yW L.cD a.z).sp, (ljustP L.typeW (a.attype.getD s)).sp, (intP L.oneW 1).sp,
      (ljustP 0 L.res).sp, (fixP false L.chW L.chD (a.charge.getD ⟨false, 0⟩)).sp].map Padded.render).flatten ++ ['\n'] := by
    simp [atomLine, hsym, Padded.render_sp, render_intP, render_fixP, render_ljustP, ljust, sp, spaces]
  rw [readAtom, e, splitWs_line]
  · simp [intP, fixP, ljustP, Padded.sp_tok, title_take_ne s hne, pyFix_fixCore_self, hz, normAtom, hsym]
  · simp [intP_ok, fixP_ok, Padded.OK.sp, ljustP_ok, hnw, hne, hty, hL.2.2.1, hL.2.2.2.1]
  · simp [Padded.sp_pre_ne_nil]

theorem readAtoms (T : Tables) (L : Layout) (hL : LayoutOK T L) (atoms : List Atom) (k : Nat) (rest : List Str)
    (h : ∀ a ∈ atoms, AtomOK T a) :
    readN (readAtom T L) atoms.length (atomLinesFrom T L k atoms ++ rest) = .ok (atoms.map (normAtom T), rest) := by
  fun_induction atomLinesFrom T L k atoms with
  | case1 => rfl
  | case2 k a as ih =>
    obtain ⟨ha, has⟩ := List.forall_mem_cons.mp h
    simp only [List.length_cons, List.cons_append, readN, readAtom_atomLine T L hL k a ha, ih has, List.map_cons]

theorem bondName_spec (T : Tables) (L : Layout) (hL : LayoutOK T L) (t : Nat) :
    NoWs (bondName T L t) ∧ bondName T L t ≠ [] ∧
    (T.bnum? (bondName T L t)).getD L.unBond = (if (T.bond? t).isSome then t else L.unBond) := by
  have entry : ∀ k nm, T.bond? k = some nm → NoWs nm ∧ nm ≠ [] ∧ T.bnum? nm = some k :=
    fun k nm h => hL.2.2.2.2.2.2.2.2.2.2.1 (k, nm) (lookupK_key _ _ _ h)
  obtain ⟨un, hun⟩ := Option.isSome_iff_exists.mp hL.2.2.2.2.2.2.2.2.2.2.2
  unfold bondName
  cases ht : T.bond? t with
  | some nm => obtain ⟨h1, h2, h3⟩ := entry t nm ht; simp [h1, h2, h3]
  | none => obtain ⟨h1, h2, h3⟩ := entry _ un hun; simp [hun, h1, h2, h3]

theorem readBond_bondLine (T : Tables) (L : Layout) (hL : LayoutOK T L) (k : Nat) (b : Bond) :
    readBond T L (bondLine T L k b) = .ok (normBond T L b) := by
  obtain ⟨h1, h2, h3⟩ := bondName_spec T L hL b.t
  have e : bondLine T L k b = ([intP L.bidW (k + 1 : Nat), (intP L.batW (b.i + 1 : Nat)).sp, (intP L.batW (b.j + 1 : Nat)).sp,
      (ljustP L.btW (bondName T L b.t)).sp].map Padded.render).flatten ++ ['\n'] := by
    simp [bondLine, Padded.render_sp, render_intP, render_ljustP, sp]
  rw [readBond, e, splitWs_line]
  · simp [intP, ljustP, Padded.sp_tok, pyInt_intToDec_self, h3, normBond]
  · simp [intP_ok, Padded.OK.sp, ljustP_ok, h1, h2]
  · simp [Padded.sp_pre_ne_nil]

theorem readBonds (T : Tables) (L : Layout) (hL : LayoutOK T L) (bs : List Bond) (k : Nat) (rest : List Str) :
    readN (readBond T L) bs.length (bondLinesFrom T L k bs ++ rest) = .ok (bs.map (normBond T L), rest) := by
  fun_induction bondLinesFrom T L k bs with
  | case1 => rfl
  | case2 k b bs ih => simp only [List.length_cons, List.cons_append, readN, readBond_bondLine T L hL k b, ih, List.map_cons]

theorem loop_blank (T : Tables) (L : Layout) (f : Nat) (st : St) (line : Str) (ls : List Str) (h : line.length ≤ 1) :
    loop T L (f + 1) st (line :: ls) = loop T L f st ls := by
  simp [loop, h]

theorem loop_blanks (T : Tables) (L : Layout) : ∀ (bl : List Str) (f : Nat) (st : St) (rest : List Str),
    (∀ l ∈ bl, l.length ≤ 1) → loop T L (f + bl.length) st (bl ++ rest) = loop T L f st rest := by
  intro bl; induction bl with
  | nil => intro f st rest _; rfl
  | cons l bl ih =>
    intro f st rest h
    exact (loop_blank T L (f + bl.length) st l _ (h l List.mem_cons_self)).trans
      (ih f st rest fun x hx => h x (List.mem_cons_of_mem _ hx))

theorem loop_other (T : Tables) (L : Layout) (f : Nat) (st : St) (line : Str) (ls : List Str) (w : Str) (ws : List Str)
    (hlen : 1 < line.length) (hw : splitWs line = w :: ws) (h1 : w ≠ kMol) (h2 : w ≠ kAtom) (h3 : w ≠ kBond) :
    loop T L (f + 1) st (line :: ls) = loop T L f st ls := by
  have : ¬ line.length ≤ 1 := by omega
  simp [loop, this, hw, h1, h2, h3]

/-- a section keyword on a line of its own is a single word of more than one character -/
def IsKw (k : Str) : Prop := splitWs (k ++ ['\n']) = [k] ∧ ¬ (k ++ ['\n']).length ≤ 1

theorem kw_words : IsKw kMol ∧ IsKw kAtom ∧ IsKw kBond ∧ kAtom ≠ kMol ∧ kBond ≠ kMol ∧ kBond ≠ kAtom := by
  unfold IsKw kMol kAtom kBond
  simp only [toList_lit (by with_reducible rfl)]
  decide +kernel

theorem counts_words (L : Layout) (a b : Nat) :
    splitWs (countsLine L a b) = [intToDec a, intToDec b, intToDec 0, intToDec 0] := by
  have e : countsLine L a b = ([intP L.natW a, (intP L.cntW b).sp, (intP L.cntW 0).sp, (intP L.cntW 0).sp].map
      Padded.render).flatten ++ ['\n'] := by
    simp [countsLine, Padded.render_sp, render_intP, sp]
  rw [e, splitWs_line]
  · rfl
  · simp [intP_ok, Padded.OK.sp]
  · simp [Padded.sp_pre_ne_nil]

theorem okTitle_spec {t : Str} (h : okTitle t = true) : Trimmed t := (trimmed_one_line h).1

theorem okTitle_outTitle (T : Tables) (L : Layout) (hL : LayoutOK T L) (t : Str) (h : okTitle t = true) : okTitle (outTitle L t) = true :=
  orDefault_ok (P := fun t => okTitle t = true) hL.1 h

theorem loop_end (T : Tables) (L : Layout) (f : Nat) (st : St) : loop T L f st [] = .ok st := by
  cases f <;> rfl

theorem loop_mol (T : Tables) (L : Layout) (f : Nat) (st : St) (t c : Str) (ls : List Str) (a b : Str) (ws : List Str) (na nb : Int)
    (hres : st.result = none) (hw : splitWs c = a :: b :: ws) (pa : pyInt a = some na) (pb : pyInt b = some nb) :
    loop T L (f + 1) st ((kMol ++ ['\n']) :: t :: c :: ls)
      = loop T L f { st with title := strip t, natoms := na, nbonds := nb } ls := by
  obtain ⟨hk, hl⟩ := kw_words.1
  simp only [loop, hl, if_false, hk, if_true, hres, Option.isSome_none, Bool.false_eq_true, hw, List.getElem?_cons_zero,
    List.getElem?_cons_succ, pa, pb]

theorem loop_atom (T : Tables) (L : Layout) (f : Nat) (st : St) (ls ls' : List Str) (atoms : List LAtom) (n : Nat)
    (hn : st.natoms = (n : Int)) (hr : readN (readAtom T L) n ls = .ok (atoms, ls')) :
    loop T L (f + 1) st ((kAtom ++ ['\n']) :: ls) = loop T L f { st with result := some ⟨st.title, atoms, none⟩ } ls' := by
  obtain ⟨hk, hl⟩ := kw_words.2.1
  have nneg : ¬ ((n : Int) < 0) := by omega
  simp only [loop, hl, if_false, hk, kw_words.2.2.2.1, if_true, hn, nneg, Int.toNat_natCast, hr]

theorem loop_bond (T : Tables) (L : Layout) (f : Nat) (st : St) (ls ls' : List Str) (bonds : List Bond) (n : Nat) (r : Loaded)
    (hn : st.nbonds = (n : Int)) (hres : st.result = some r) (hr : readN (readBond T L) n ls = .ok (bonds, ls')) :
    loop T L (f + 1) st ((kBond ++ ['\n']) :: ls) = loop T L f { st with result := some { r with bonds := some bonds } } ls' := by
  obtain ⟨hk, hl⟩ := kw_words.2.2.1
  have nneg : ¬ ((n : Int) < 0) := by omega
  simp only [loop, hl, if_false, hk, kw_words.2.2.2.2.1, kw_words.2.2.2.2.2, if_true, hn, nneg, Int.toNat_natCast, hr, hres]

theorem length_atomLines (T : Tables) (L : Layout) (as : List Atom) (k : Nat) : (atomLinesFrom T L k as).length = as.length := by
  fun_induction atomLinesFrom T L k as <;> simp [*]

theorem load_dump (T : Tables) (L : Layout) (hL : LayoutOK T L) (o : Obj) (h : Dom T L o) :
    load T L (dump T L o) = .ok (norm T L o) := by
  obtain ⟨ht, hat, hne, hb⟩ := h
  have htitle : strip (outTitle L o.title ++ ['\n']) = outTitle L o.title :=
    strip_ln (okTitle_spec (okTitle_outTitle T L hL _ ht))
  have hLok := hL
  obtain ⟨_, _, _, _, hc1, hc2, hc3, hc4, hc5, _, _, _⟩ := hL
  have hcw : splitWs (L.comment ++ ['\n']) = splitWs L.comment := by
    rw [splitWs_append_brk _ _ (brk_nl _), splitWs_allWs _ allWs_nl, List.append_nil]
  have hall : ∀ l ∈ blankLines L, l.length ≤ 1 := by
    intro l hl; simp only [blankLines, List.mem_map] at hl
    obtain ⟨_, _, rfl⟩ := hl; simp
  have cw := counts_words L o.atoms.length ((o.bonds.map List.length).getD 0)
  -- fuel: one unit per blank line and one each for the comment, MOLECULE, ATOM and BOND lines and the end of the file
  have main : ∀ m : Nat, loop T L (m + 4 + (blankLines L).length + 1) ⟨[], 0, 0, none⟩ (dump T L o) =
      .ok ⟨outTitle L o.title, o.atoms.length, ((o.bonds.map List.length).getD 0 : Nat), some (norm T L o)⟩ := by
    intro m
    cases hw : splitWs L.comment with
    | nil => exact absurd hw hc5
    | cons w ws =>
      have n1 : w ≠ kMol := fun e => hc2 (by rw [hw, e]; rfl)
      have n2 : w ≠ kAtom := fun e => hc3 (by rw [hw, e]; rfl)
      have n3 : w ≠ kBond := fun e => hc4 (by rw [hw, e]; rfl)
      unfold dump
      rw [loop_other T L _ _ (L.comment ++ ['\n']) _ w ws (by simp; omega) (by rw [hcw, hw]) n1 n2 n3,
        loop_blanks T L (blankLines L) (m + 4) _ _ hall]
      rw [loop_mol T L (m + 3) _ _ _ _ _ _ _ (o.atoms.length : Int) (((o.bonds.map List.length).getD 0 : Nat) : Int) rfl cw
          (pyInt_intToDec_self _) (pyInt_intToDec_self _), htitle]
      cases hbs : o.bonds with
      | none =>
        have hatoms := readAtoms T L hLok o.atoms 0 [] hat
        simp only [List.append_nil] at hatoms ⊢
        rw [loop_atom T L (m + 2) _ _ [] _ o.atoms.length rfl hatoms, loop_end]
        simp [norm, hbs]
      | some bs =>
        have hatoms := readAtoms T L hLok o.atoms 0 ((kBond ++ ['\n']) :: bondLinesFrom T L 0 bs) hat
        have hbonds := readBonds T L hLok bs 0 []
        simp only [List.append_nil] at hbonds
        rw [loop_atom T L (m + 2) _ _ _ _ o.atoms.length rfl hatoms, loop_bond T L (m + 1) _ _ [] _ bs.length _ (by simp) rfl hbonds, loop_end]
        simp [norm, hbs]
  have hlen : (dump T L o).length + 1 = ((dump T L o).length - (blankLines L).length - 4) + 4 + (blankLines L).length + 1 := by
    have : (blankLines L).length + 5 ≤ (dump T L o).length := by
      have : 0 < o.atoms.length := List.length_pos_iff.mpr hne
      simp [dump, length_atomLines] <;> omega
    omega
  unfold load
  rw [hlen, main]
  cases hbs : o.bonds <;> simp [norm, hbs]

theorem outTitle_idem (T : Tables) (L : Layout) (hL : LayoutOK T L) (t : Str) : outTitle L (outTitle L t) = outTitle L t :=
  orDefault_idem hL.2.1 t

theorem normBond_idem (T : Tables) (L : Layout) (hL : LayoutOK T L) (b : Bond) : normBond T L (normBond T L b) = normBond T L b := by
  have hu := hL.2.2.2.2.2.2.2.2.2.2.2
  unfold normBond
  by_cases h : (T.bond? b.t).isSome = true
  · simp [h]
  · simp [h, hu]

theorem norm_idem (T : Tables) (L : Layout) (hL : LayoutOK T L) (o : Obj) : norm T L (norm T L o).obj = norm T L o := by
  have hb : (normBond T L) ∘ (normBond T L) = normBond T L := funext (normBond_idem T L hL)
  cases hbs : o.bonds <;> simp [norm, Loaded.obj, outTitle_idem T L hL, normAtom, hbs, hb]

theorem dom_norm (T : Tables) (L : Layout) (hL : LayoutOK T L) (o : Obj) (h : Dom T L o) : Dom T L (norm T L o).obj := by
  obtain ⟨ht, hat, hne, hb⟩ := h
  refine ⟨okTitle_outTitle T L hL _ ht, ?_, ?_, ?_⟩
  · intro a ha
    simp only [norm, Loaded.obj, List.map_map, List.mem_map] at ha
    obtain ⟨a0, ha0, rfl⟩ := ha
    exact ⟨(hat a0 ha0).1, (hat a0 ha0).type⟩
  · simp only [norm, Loaded.obj]
    intro e; exact hne (List.map_eq_nil_iff.mp (List.map_eq_nil_iff.mp e))
  · simp only [norm, Loaded.obj]
    cases hbs : o.bonds with
    | none => trivial
    | some bs =>
      rw [hbs] at hb
      simp only [Option.map_some]
      intro e; exact hb (List.map_eq_nil_iff.mp e)

end Iodata.Fmt.Mol2
