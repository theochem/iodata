/-
The element table `Gen.Layouts.tables`, evaluated once: atomic numbers 1..118 in order, and every symbol is found again
by `num?`, has one or two characters and is, as tabulated and in upper or lower case, a blank-free non-numeric word that
`title()` restores.  The per-format "every element is usable"
facts follow from this by lemmas about an arbitrary table: `okZ_of_entry` in the format's file (POSCAR, WFN, QCSchema), and
`Tables.RowOK` / `tables_row` / `okZ_of_row` in `Lemmas/Fmt/Periodic.lean` (XYZ, SDF, PDB, MOL2).
-/
import Iodata.Lemmas.Chars
import Iodata.Model.Fmt.Core
import Iodata.Gen.Layouts
namespace Iodata.Fmt
open Iodata.Chars Iodata.Gen.Layouts

theorem Tables.sym?_of_key (T : Tables) (z : Nat) (hz : z ∈ T.num2sym.map (·.1)) :
    ∃ s, (z, s) ∈ T.num2sym ∧ T.sym? z = some s := by
  obtain ⟨e, he, rfl⟩ := List.mem_map.mp hz
  unfold Tables.sym? lookupK
  cases hf : T.num2sym.find? (fun e' => e'.1 == e.1) with
  | none => exact absurd (List.find?_eq_none.mp hf e he) (by simp)
  | some e' =>
    have h1 := List.find?_some hf
    exact ⟨e'.2, eq_of_beq h1 ▸ List.mem_of_find?_eq_some hf, rfl⟩

theorem tables_elements :
    tables.num2sym.map (·.1) = List.range' 1 118 ∧
    ∀ e ∈ tables.num2sym, tables.num? e.2 = some e.1 ∧ e.2.length ≤ 2 ∧
      ∀ t ∈ [e.2, upper e.2, lower e.2], NoWs t ∧ t ≠ [] ∧ isDigitStr t = false ∧ title t = e.2 := by
  decide +kernel

/-- an atomic number 1..118 with its symbol and what `tables_elements` says of it -/
theorem tables_entry {z : Nat} (hz : z ∈ List.range' 1 118) :
    ∃ s, tables.sym? z = some s ∧ tables.num? s = some z ∧ title s = s ∧ NoWs s ∧ s ≠ [] ∧ s.length ≤ 2 := by
  obtain ⟨s, hm, hs⟩ := tables.sym?_of_key z (tables_elements.1 ▸ hz)
  obtain ⟨hn, hl, hsp⟩ := tables_elements.2 _ hm
  obtain ⟨hw, hne, _, ht⟩ := hsp s List.mem_cons_self
  exact ⟨s, hs, hn, ht, hw, hne, hl⟩

end Iodata.Fmt
