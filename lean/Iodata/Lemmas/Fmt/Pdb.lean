/- PDB: the ATOM record cut by column, the multi-line TITLE/COMPND records, and the reader loop over ATOM records. -/
import Iodata.Lemmas.Fmt.Fields
import Iodata.Model.Fmt.Pdb
namespace Iodata.Fmt.Pdb
open Iodata.Chars Iodata.Decimal Iodata.Fmt

theorem rjust_split (w : Nat) (s : Str) (hs : s.length ≤ 2) (hw : 2 ≤ w) :
    rjust w s = spaces (w - 2) ++ rjust 2 s := by
  simp only [rjust, spaces, ← List.append_assoc, List.replicate_append_replicate]
  congr 2; omega

theorem okField_spec {w : Nat} {s : Str} (h : okField w s = true) : Trimmed s ∧ s.length ≤ w := by
  simp only [okField, Bool.and_eq_true, decide_eq_true_eq] at h
  exact ⟨h.1.1, h.1.2⟩

theorem okZ_spec {T : Tables} {z : Nat} (h : okZ T z = true) :
    ∃ s, T.sym? z = some s ∧ NoWs s ∧ s ≠ [] ∧ s.length ≤ 2 ∧ T.num? (title s) = some z := by
  unfold okZ at h
  cases e : T.sym? z with
  | none => simp [e] at h
  | some s =>
    simp only [e, Bool.and_eq_true, decide_eq_true_eq, Bool.not_eq_true', beq_iff_eq] at h
    refine ⟨s, rfl, h.1.1.1, ?_, h.1.2, h.2⟩
    intro hs; subst hs; simp at h

theorem parseAtom_dumpAtom (T : Tables) (L : Layout) (hL : LayoutOK L) (serial : Nat) (a : Atom)
    (hser : (natToDec serial).length ≤ L.serialW) (ha : AtomOK T L a) :
    parseAtom T L (dumpAtom T L serial a) = .ok a := by
  obtain ⟨hz, hname, hres, _, hrn, hx, hy, hzz, hocc, hb⟩ := ha
  simp only [fitsFx, decide_eq_true_eq] at hx hy hzz hocc hb
  obtain ⟨s, hs, hnw, hne, hlen2, hback⟩ := okZ_spec hz
  obtain ⟨hnameT, hnameL⟩ := okField_spec hname
  obtain ⟨hresT, hresL⟩ := okField_spec hres
  obtain ⟨_, _, hsw, _, eName, eRes, eChain, eResnum, eX, eY, eZ, eOcc, eB, eSym⟩ := hL
  -- the record as the reader sees it: the element field is `symW - 2` blanks and the two columns that are read
  have cut := slices_fields [recAtom, rjust L.serialW (natToDec serial), [' '], ljust L.nameW a.name, [' '],
      ljust L.resW a.res, [' '], [a.chain], rjust L.resnumW (intToDec a.resnum), spaces L.gap4,
      fmtFix false L.coordW L.coordD a.x, fmtFix false L.coordW L.coordD a.y, fmtFix false L.coordW L.coordD a.z,
      fmtFix false L.occW L.occD a.occ, fmtFix false L.occW L.occD a.b, spaces (L.symW - 2), rjust 2 s, ['\n']]
    (line := dumpAtom T L serial a) (by simp [dumpAtom, atomFields, Tables.sym, hs, rjust_split L.symW s hlen2 hsw])
    [6, L.serialW, 1, L.nameW, 1, L.resW, 1, 1, L.resnumW, L.gap4, L.coordW, L.coordW, L.coordW, L.occW, L.occW,
      L.symW - 2, 2, 1] (by simp [recAtom, length_rjust, length_ljust, length_spaces, length_fmtFix, *])
    (readerColumns L) [3, 5, 7, 8, 10, 11, 12, 13, 14, 16]  -- `simp +arith`: `omega` splits on the twenty equations at once
    (by simp +arith [readerColumns, eName, eRes, eChain, eResnum, eX, eY, eZ, eOcc, eB, eSym, Nat.sub_add_cancel hsw])
  simp only [readerColumns, List.map_cons, List.map_nil, List.cons.injEq, and_true, List.getD_cons_succ,
    List.getD_cons_zero] at cut
  obtain ⟨sName, sRes, sChain, sResnum, sX, sY, sZ, sOcc, sB, sSym⟩ := cut
  have hsne : s.isEmpty = false := by simpa using hne
  simp only [parseAtom, sl, sSym, sName, sRes, getElem?_of_slice sChain, sResnum, sX, sY, sZ, sOcc, sB,
    strip_rjust 2 (trimmed_of_noWs s hnw), strip_ljust _ hnameT, strip_ljust _ hresT, hsne, Bool.not_false, if_true, hback,
    Option.getD, Bool.false_and, Bool.false_eq_true, if_false, pyInt_rjust, pyFix_fmt]

theorem splitNl_ne_nil (s : Str) : splitNl s ≠ [] := by
  fun_cases splitNl s <;> simp [*]

theorem joinNl_splitNl (s : Str) : joinNl (splitNl s) = s := by
  fun_induction splitNl s with
  | case1 => rfl
  | case2 c cs hc ih =>
    obtain rfl : c = '\n' := by simpa using hc
    cases h : splitNl cs with
    | nil => exact absurd h (splitNl_ne_nil cs)
    | cons l ls => rw [h] at ih; rw [← ih]; simp [joinNl, List.intercalate]
  | case3 c cs hc h ih => exact absurd h (splitNl_ne_nil cs)
  | case4 c cs hc l ls h ih =>
    rw [h] at ih; rw [← ih]
    cases ls <;> simp [joinNl, List.intercalate]

theorem okLines_spec {w : Nat} {s : Str} (h : okLines w s = true) : (∀ l ∈ splitNl s, Trimmed l) ∧ (splitNl s).length < 10 ^ w := by
  simp only [okLines, Bool.and_eq_true, List.all_eq_true, decide_eq_true_eq] at h
  exact h

theorem okTitle_outTitle (L : Layout) (hL : LayoutOK L) (t : Str) (h : okTitle L t = true) :
    okTitle L (outTitle L t) = true :=
  orDefault_ok (P := fun t => okTitle L t = true) hL.1 h

theorem step_titleX (T : Tables) (L : Layout) (st : St) (filler t : Str)
    (hs : strip (sliceFrom L.titleFrom (kTitle ++ (filler ++ (t ++ ['\n'])))) = t) :
    step T L st (kTitle ++ (filler ++ (t ++ ['\n']))) = .ok ({ st with titles := st.titles ++ [t] }, false) := by
  simp only [step, hs]
  simp [startsWith, kTitle, kCompnd, kAtom, kHetatm, kConect, kEnd]

theorem step_compndX (T : Tables) (L : Layout) (st : St) (filler t : Str)
    (hs : strip (sliceFrom L.titleFrom (kCompnd ++ (filler ++ (t ++ ['\n'])))) = t) :
    step T L st (kCompnd ++ (filler ++ (t ++ ['\n']))) = .ok ({ st with compnds := st.compnds ++ [t] }, false) := by
  simp only [step, hs]
  simp [startsWith, kTitle, kCompnd, kAtom, kHetatm, kConect, kEnd]

theorem strip_first (L : Layout) (key t : Str) (hk : key.length ≤ L.keyW) (hw : L.keyW = L.titleFrom) (ht : Trimmed t) :
    strip (sliceFrom L.titleFrom (key ++ (spaces (L.keyW - key.length) ++ (t ++ ['\n'])))) = t := by
  have e : key ++ (spaces (L.keyW - key.length) ++ (t ++ ['\n'])) = (key ++ spaces (L.keyW - key.length)) ++ (t ++ ['\n']) := by simp
  rw [e, sliceFrom_append _ _ _ (by simp [length_spaces]; omega)]
  have := strip_pad [] t ['\n'] allWs_nil allWs_nl ht
  simpa using this

theorem strip_cont (L : Layout) (key t : Str) (n : Nat) (hk : key.length ≤ L.keyW) (hw : L.keyW = L.titleFrom) (ht : Trimmed t)
    (hn : (natToDec n).length ≤ L.keyW - key.length) :
    strip (sliceFrom L.titleFrom (key ++ ((rjust (L.keyW - key.length) (natToDec n) ++ [' ']) ++ (t ++ ['\n'])))) = t := by
  have e : key ++ ((rjust (L.keyW - key.length) (natToDec n) ++ [' ']) ++ (t ++ ['\n']))
      = (key ++ rjust (L.keyW - key.length) (natToDec n)) ++ ([' '] ++ (t ++ ['\n'])) := by simp
  rw [e, sliceFrom_append _ _ _ (by rw [List.length_append, length_rjust _ _ hn]; omega)]
  exact strip_pad [' '] t ['\n'] (by decide) allWs_nl ht

theorem loop_multi (T : Tables) (L : Layout) (key : Str) (hk : key.length ≤ L.keyW) (hw : L.keyW = L.titleFrom)
    (upd : St → Str → St)
    (hstep : ∀ st filler t, strip (sliceFrom L.titleFrom (key ++ (filler ++ (t ++ ['\n'])))) = t →
      step T L st (key ++ (filler ++ (t ++ ['\n']))) = .ok (upd st t, false)) :
    ∀ (ls : List Str) (k : Nat) (st : St) (rest : List Str), (∀ l ∈ ls, Trimmed l) → k + ls.length < 10 ^ (L.keyW - key.length) →
    0 < L.keyW - key.length →
    loop T L st (multiFrom L key k ls ++ rest) = loop T L (ls.foldl upd st) rest := by
  intro ls; induction ls with
  | nil => intro k st rest _ _ _; rfl
  | cons l ls ih =>
    intro k st rest ht hn hpos
    have hfit : (natToDec (k + 1)).length ≤ L.keyW - key.length :=
      length_natToDec_le _ _ (by simp at hn; omega) hpos
    have hs := strip_cont L key l (k + 1) hk hw (ht l List.mem_cons_self) hfit
    have h1 := hstep st _ l hs
    have e : contPrefix L key (k + 1) ++ (l ++ ['\n']) = key ++ ((rjust (L.keyW - key.length) (natToDec (k + 1)) ++ [' ']) ++ (l ++ ['\n'])) := by
      simp [contPrefix]
    simp only [multiFrom, List.cons_append, loop, e, h1, List.foldl_cons]
    exact ih (k + 1) _ rest (fun x hx => ht x (List.mem_cons_of_mem _ hx)) (by simp at hn; omega) hpos

theorem loop_multiLines (T : Tables) (L : Layout) (key : Str) (hk : key.length < L.keyW) (hw : L.keyW = L.titleFrom)
    (upd : St → Str → St)
    (hstep : ∀ st filler t, strip (sliceFrom L.titleFrom (key ++ (filler ++ (t ++ ['\n'])))) = t →
      step T L st (key ++ (filler ++ (t ++ ['\n']))) = .ok (upd st t, false))
    (value : Str) (hv : okLines (L.keyW - key.length) value = true) (st : St) (rest : List Str) :
    loop T L st (multiLines L key value ++ rest) = loop T L ((splitNl value).foldl upd st) rest := by
  obtain ⟨ht, hn⟩ := okLines_spec hv
  unfold multiLines
  cases hsp : splitNl value with
  | nil => rfl
  | cons l ls =>
    rw [hsp] at ht hn
    have hs := strip_first L key l (by omega) hw (ht l List.mem_cons_self)
    have h1 := hstep st _ l hs
    have e : ljust L.keyW key ++ (l ++ ['\n']) = key ++ (spaces (L.keyW - key.length) ++ (l ++ ['\n'])) := by simp [ljust]
    simp only [List.cons_append, loop, e, h1, List.foldl_cons]
    exact loop_multi T L key (by omega) hw upd hstep ls 1 _ rest (fun x hx => ht x (List.mem_cons_of_mem _ hx))
      (by simp at hn; omega) (by omega)

theorem foldl_titles (ls : List Str) (st : St) :
    ls.foldl (fun (s : St) t => { s with titles := s.titles ++ [t] }) st = { st with titles := st.titles ++ ls } := by
  induction ls generalizing st with
  | nil => simp
  | cons l ls ih => simp [ih, List.append_assoc]

theorem foldl_compnds (ls : List Str) (st : St) :
    ls.foldl (fun (s : St) t => { s with compnds := s.compnds ++ [t] }) st = { st with compnds := st.compnds ++ ls } := by
  induction ls generalizing st with
  | nil => simp
  | cons l ls ih => simp [ih, List.append_assoc]

/-- without bonds every atom has the empty partner list, so a per-atom output that is empty there yields nothing -/
theorem flatMap_conn_nil {β : Type} (n : Nat) (f : List Nat × Nat → List β) (hf : ∀ a, f ([], a) = []) :
    (connections n []).zipIdx.flatMap f = [] := by
  rw [List.flatMap_eq_nil_iff]
  intro ⟨cs, a⟩ hx
  have := List.fst_mem_of_mem_zipIdx hx
  simp [connections] at this
  rw [this.2, hf]

theorem step_atom (T : Tables) (L : Layout) (hL : LayoutOK L) (st : St) (serial : Nat) (a : Atom)
    (hser : (natToDec serial).length ≤ L.serialW) (ha : AtomOK T L a) :
    step T L st (dumpAtom T L serial a) = .ok ({ st with atoms := st.atoms ++ [a] }, false) := by
  have hp := parseAtom_dumpAtom T L hL serial a hser ha
  have e : dumpAtom T L serial a = 'A' :: 'T' :: 'O' :: 'M' :: ' ' :: ' ' :: (atomFields T L serial a).tail.flatten := by
    simp [dumpAtom, atomFields, recAtom]
  simp only [step, hp]
  rw [e]
  simp [startsWith, kTitle, kCompnd, kAtom, kHetatm, kConect, kEnd]

theorem step_end (T : Tables) (L : Layout) (st : St) :
    step T L st recEnd = .ok (st, !st.atoms.isEmpty) := by
  simp [step, startsWith, recEnd, kTitle, kCompnd, kAtom, kHetatm, kConect, kEnd]

theorem loop_atoms (T : Tables) (L : Layout) (hL : LayoutOK L) (hw : 0 < L.serialW) (atoms : List Atom) :
    ∀ (st : St) (k : Nat) (rest : List Str), k + atoms.length < 10 ^ L.serialW → (∀ a ∈ atoms, AtomOK T L a) →
    loop T L st (dumpAtomsFrom T L k atoms ++ rest) = loop T L { st with atoms := st.atoms ++ atoms } rest := by
  induction atoms with
  | nil => intro st k rest _ _; simp [dumpAtomsFrom]
  | cons a as ih =>
    intro st k rest hk hok
    have hser : (natToDec (k + 1)).length ≤ L.serialW :=
      length_natToDec_le _ _ (by simp at hk; omega) hw
    have h1 := step_atom T L hL st (k + 1) a hser (hok a List.mem_cons_self)
    simp only [dumpAtomsFrom, List.cons_append, loop, h1]
    rw [ih _ (k + 1) rest (by simp at hk; omega) (fun x hx => hok x (List.mem_cons_of_mem _ hx))]
    simp

theorem normBonds_nil (n : Nat) : normBonds n [] = [] :=
  flatMap_conn_nil n _ fun _ => rfl

theorem dumpConect_nil (L : Layout) (n : Nat) : dumpConect L n [] = [] :=
  flatMap_conn_nil n _ fun _ => rfl

/-- the object written on the second save: what the first reload returned (chain ids, if any, kept) -/
def Loaded.obj (x : Loaded) : Obj := ⟨x.title, x.atoms, x.bonds, x.compound⟩

theorem outTitle_idem (L : Layout) (hL : LayoutOK L) (t : Str) : outTitle L (outTitle L t) = outTitle L t :=
  orDefault_idem hL.2.1 t

end Iodata.Fmt.Pdb
