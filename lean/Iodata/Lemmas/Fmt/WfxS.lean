/- WFX section layer: `parse_wfx` as a state machine run line by line over the writer's output; number lines of every
length read back word by word. -/
import Iodata.Lemmas.Fmt.Fchk
import Iodata.Model.Fmt.WfxS
namespace Iodata.Fmt.WfxS
open Iodata.Chars Iodata.Decimal Iodata.Fmt

def keys (d : Dict) : List Str := d.map (·.1)

theorem mem_keys_append {k : Str} {d e : Dict} : k ∈ keys (d ++ e) ↔ k ∈ keys d ∨ k ∈ keys e := by
  simp [keys]
theorem not_mem_keys_nil (k : Str) : k ∉ keys [] := List.not_mem_nil

theorem dictAppend_append {d : Dict} {k : Str} (h : k ∉ keys d) (e : Dict) (l : Str) :
    dictAppend (d ++ e) k l = d ++ dictAppend e k l := by
  have : ∀ x ∈ d, (if x.1 == k then (x.1, x.2 ++ [l]) else x) = id x := fun x hx =>
    if_neg fun hk => h (List.mem_map.mpr ⟨x, hx, eq_of_beq hk⟩)
  simp only [dictAppend, List.map_append, List.map_congr_left this, List.map_id]

/-- fuel beyond the number of lines is not used -/
theorem parseGo_fuel : ∀ (f f' : Nat) (d : Dict) (cur : Option Str) (ls : List Str), ls.length < f → ls.length < f' →
    parseGo f d cur ls = parseGo f' d cur ls := by
  intro f
  induction f with
  | zero => intro _ _ _ _ h; cases h
  | succ f ih =>
    intro f' d cur ls h h'
    cases f' with
    | zero => cases h'
    | succ f' =>
      cases ls with
      | nil => simp only [parseGo]
      | cons raw rest =>
        have ih' : ∀ d c (r : List Str), r.length ≤ rest.length → parseGo f d c r = parseGo f' d c r := fun d c r hr =>
          ih f' d c r (by simp only [List.length_cons] at h; omega) (by simp only [List.length_cons] at h'; omega)
        simp only [parseGo, ih' _ _ rest (Nat.le_refl _)]
        -- what is left is the `<MO Number>` record, the one step that skips lines
        rcases rest with _ | ⟨num, _ | ⟨x, rest'⟩⟩
        · rfl
        · rfl
        · simp only [ih' _ _ rest' (by simp only [List.length_cons]; omega)]

/-- `parse_wfx` with as much fuel as there are lines left, which is how `parse` starts -/
def run (d : Dict) (cur : Option Str) (ls : List Str) : R Dict := parseGo (ls.length + 1) d cur ls

theorem run_nil (d : Dict) : run d none [] = .ok d := rfl

theorem run_none (d : Dict) (raw : Str) (rest : List Str) :
    run d none (raw :: rest) =
      if startsWith ltS (strip raw) then
        if hasKey d (strip raw) then .error .format else
        run (if strip raw == moTag then d ++ [(strip raw, [])] ++ [(moNumbers, [])] else d ++ [(strip raw, [])])
          (some (strip raw)) rest
      else .error .index := by
  simp only [run, List.length_cons, parseGo]

theorem run_some (d : Dict) (sec raw : Str) (rest : List Str) :
    run d (some sec) (raw :: rest) =
      if startsWith ltSlash (strip raw) then
        if noBlanks (strip raw) != noBlanks (endOf sec) then .error .format else run d none rest
      else if sec == moTag && strip raw == moNumber then
        match rest with
        | num :: _ :: rest' => run (dictAppend d moNumbers (strip num)) (some sec) rest'
        | _ => .error .eof
      else run (dictAppend d sec (strip raw)) (some sec) rest := by
  simp only [run, List.length_cons, parseGo]
  rcases rest with _ | ⟨num, _ | ⟨x, rest'⟩⟩
  · rfl
  · rfl
  · simp only [List.length_cons, parseGo_fuel (rest'.length + 1 + 1 + 1) (rest'.length + 1) _ _ rest' (by omega) (by omega)]

/-- a body line that is neither a closing tag nor (inside the orbital section) an `<MO Number>` line is appended -/
def plain (k : Str) (l : Str) : Prop := startsWith ltSlash (strip l) = false ∧ (k == moTag && strip l == moNumber) = false

theorem run_plain {k l : Str} (h : plain k l) (d : Dict) (rest : List Str) :
    run d (some k) (l :: rest) = run (dictAppend d k (strip l)) (some k) rest := by
  rw [run_some, h.1, h.2]; rfl

theorem run_moNumber (d : Dict) (num x : Str) (rest : List Str) :
    run d (some moTag) ((moNumber ++ ['\n']) :: num :: x :: rest)
      = run (dictAppend d moNumbers (strip num)) (some moTag) rest := by
  have s1 : strip (moNumber ++ ['\n']) = moNumber := by decide
  have s2 : startsWith ltSlash moNumber = false := by decide
  simp only [run_some, s1, s2, beq_self_eq_true, Bool.and_self, if_true, Bool.false_eq_true, if_false]

theorem run_plains (D : List Str → Dict) (k : Str) (hD : ∀ acc l, dictAppend (D acc) k l = D (acc ++ [l])) (rest : List Str) :
    ∀ (ls acc : List Str), (∀ l ∈ ls, plain k l) →
      run (D acc) (some k) (ls ++ rest) = run (D (acc ++ stripAll ls)) (some k) rest
  | [], acc, _ => by simp [stripAll]
  | l :: ls, acc, hp => by
    rw [List.cons_append, run_plain (hp l List.mem_cons_self), hD,
      run_plains D k hD rest ls _ fun x hx => hp x (List.mem_cons_of_mem _ hx)]
    simp [stripAll]

theorem okTag_shape {t : Str} (h : okTag t = true) : ∃ s, t = '<' :: s ∧ rstrip s = s ∧ closeTag t = '<' :: '/' :: s := by
  unfold okTag at h
  simp only [Bool.and_eq_true, decide_eq_true_eq] at h
  obtain ⟨⟨⟨-, hr⟩, -⟩, h2⟩ := h
  rcases t with _ | ⟨a, _ | ⟨c, r⟩⟩
  · simp at h2
  · simp at h2
  · simp only [Bool.and_eq_true, bne_iff_ne, ne_eq, beq_iff_eq] at h2
    obtain ⟨⟨rfl, h3⟩, -⟩ := h2
    rw [rstrip_cons (by decide)] at hr
    exact ⟨c :: r, rfl, (List.cons.inj hr).2, by simp [closeTag, h3]⟩

theorem run_open {t : Str} (h : okTag t = true) {d : Dict} (hk : t ∉ keys d) (rest : List Str) :
    run d none ((t ++ ['\n']) :: rest)
      = run (if t == moTag then d ++ [(t, []), (moNumbers, [])] else d ++ [(t, [])]) (some t) rest := by
  obtain ⟨s, rfl, hs, -⟩ := okTag_shape h
  have hh : hasKey d ('<' :: s) = false := by
    simp only [hasKey, List.any_eq_false, beq_iff_eq]
    exact fun e he heq => hk (List.mem_map.mpr ⟨e, he, heq⟩)
  have hst : strip ('<' :: s ++ ['\n']) = '<' :: s := strip_vis_line (c := '<') (by decide) hs _ allWs_nl
  rw [run_none, hst, hh]
  simp [startsWith, ltS]

theorem run_close {t : Str} (h : okTag t = true) (d : Dict) (rest : List Str) :
    run d (some t) ((closeTag t ++ ['\n']) :: rest) = run d none rest := by
  obtain ⟨s, rfl, hs, hc⟩ := okTag_shape h
  have hs' : rstrip ('/' :: s) = '/' :: s := by rw [rstrip_cons (by decide), hs]
  have hst : strip ('<' :: '/' :: s ++ ['\n']) = '<' :: '/' :: s := strip_vis_line (c := '<') (by decide) hs' _ allWs_nl
  rw [run_some, hc, hst]
  simp [startsWith, ltSlash, endOf]

theorem joinSp_cons_cons (a b : Str) (bs : List Str) : joinSp (a :: b :: bs) = a ++ ([' '] ++ joinSp (b :: bs)) := by
  simp [joinSp, List.intercalate]

theorem joinSp_head (a : Str) (bs : List Str) : ∃ t, joinSp (a :: bs) = a ++ t := by
  cases bs with
  | nil => exact ⟨[], by simp [joinSp, List.intercalate]⟩
  | cons b bs => exact ⟨_, joinSp_cons_cons a b bs⟩

theorem plain_of_head (k : Str) {l : Str} {c : Char} {r : Str} (h : strip l = c :: r) (hc : c ≠ '<') : plain k l := by
  have : ('<' == c) = false := by simpa using hc.symm
  simp [plain, h, startsWith, ltSlash, moNumber, List.isPrefixOf, this, hc]

/-- a line of numbers starts, after blanks, with the first character of a number: such a line is no tag -/
theorem numLines_plain {α} (k : Str) (per : Nat) (hper : 0 < per) (render : α → Str) (P : α → Padded)
    (hP : ∀ x, (P x).render = render x ∧ (P x).OK) (hh : ∀ x, ∃ c r, (P x).tok = c :: r ∧ c ≠ '<') (l : List α) :
    ∀ line ∈ numLines per render l, plain k line := by
  obtain ⟨chs, -, hne, e⟩ := Fchk.chunked per hper (fun ch => joinSp (ch.map render) ++ ['\n']) l
  rw [numLines, e]
  intro line hl
  obtain ⟨ch, hch, rfl⟩ := List.mem_map.mp hl
  obtain ⟨x, xs, rfl⟩ := List.exists_cons_of_ne_nil (hne ch hch)
  obtain ⟨c, r, hc, hlt⟩ := hh x
  obtain ⟨hr, hp, hnw, -⟩ := hP x
  obtain ⟨t, ht⟩ := joinSp_head (render x) (xs.map render)
  have e : joinSp ((x :: xs).map render) ++ ['\n'] = (P x).pre ++ c :: (r ++ ((P x).post ++ (t ++ ['\n']))) := by
    rw [List.map_cons, ht, ← hr, Padded.render, hc]; simp
  rw [e]
  exact plain_of_head k (strip_vis _ hp (hnw c (hc ▸ List.mem_cons_self)) _) hlt

theorem splitWs_joinSp_lines : ∀ (ls : List Str), splitWs (joinSp ls) = ls.flatMap splitWs
  | [] => rfl
  | [a] => by simp [joinSp, List.intercalate]
  | a :: b :: bs => by
    rw [joinSp_cons_cons, splitWs_append_brk a ([' '] ++ joinSp (b :: bs)) (brk_space _),
      splitWs_allWs_append [' '] _ (by decide), splitWs_joinSp_lines (b :: bs)]
    rfl

theorem numLines_tokens {α} (per : Nat) (hper : 0 < per) (render : α → Str) (P : α → Padded)
    (hP : ∀ x, (P x).render = render x ∧ (P x).OK) (l : List α) :
    splitWs (joinSp (stripAll (numLines per render l))) = l.map fun x => (P x).tok := by
  have line : ∀ ch : List α, splitWs (strip (joinSp (ch.map render) ++ ['\n'])) = ch.map fun x => (P x).tok := by
    intro ch
    have e : ch.map render = (ch.map P).map Padded.render := by
      rw [List.map_map]; exact List.map_congr_left fun x _ => (hP x).1.symm
    rw [splitWs_strip, e, splitWs_joinSp_padded _ _ (fun p hp => by obtain ⟨x, -, rfl⟩ := List.mem_map.mp hp; exact (hP x).2)
      (brk_nl []), splitWs_nl, List.append_nil, List.map_map]
    rfl
  obtain ⟨chs, hflat, -, e⟩ := Fchk.chunked per hper (fun ch => joinSp (ch.map render) ++ ['\n']) l
  rw [splitWs_joinSp_lines, numLines, e, ← hflat, List.map_flatten, List.flatMap_def]
  simp only [stripAll, List.map_map, Function.comp_def, line]

theorem optAll_map {α β} (f : α → Option β) (g : β → α) : ∀ l : List β, (∀ x ∈ l, f (g x) = some x) → optAll f (l.map g) = some l
  | [], _ => rfl
  | x :: l, h => by
    simp only [List.map_cons, optAll, h x List.mem_cons_self, optAll_map f g l fun y hy => h y (List.mem_cons_of_mem _ hy)]

/-- `f"{c:d}"` as a padded token: a field of width 0 -/
theorem intP0_spec (i : Int) : (intP 0 i).render = intToDec i ∧ (intP 0 i).OK :=
  ⟨by simp [render_intP, fmtInt_eq, spaces], intP_ok 0 i⟩

/-- typed decoding: the integers of a section come back, for every number of them -/
theorem decodeInts_lines (per : Nat) (hper : 0 < per) (l : List Int) :
    decodeInts (stripAll (numLines per intToDec l)) = some l := by
  unfold decodeInts
  rw [numLines_tokens per hper intToDec (intP 0) intP0_spec l]
  exact optAll_map pyInt intToDec l fun x _ => pyInt_intToDec_self x

theorem intToDec_head (i : Int) : ∃ c r, intToDec i = c :: r ∧ c ≠ '<' := by
  obtain ⟨c, r, h, hc⟩ := signed_head (decide (i < 0)) (natToDec_head i.natAbs)
  exact ⟨c, r, by rw [intToDec_eq, h], (by decide : ∀ c ∈ '-' :: digitChars, c ≠ '<') c hc⟩

/-- `f"{x: ,.14E}"` as a padded token: a field of width 0 with the sign flag, or `NAN` after the blank (the `,` flag groups
the digits before the point, and the mantissa has one: the model's `real` has no commas) -/
def realP (L : Layout) : Option Sci → Padded
  | none => ⟨[' '], kNAN, []⟩
  | some x => sciP true true 0 L.d x

theorem realP_spec (L : Layout) (x : Option Sci) : (realP L x).render = real L x ∧ (realP L x).OK := by
  cases x with
  | none => exact ⟨rfl, (by decide : AllWs [' ']), (by decide : NoWs kNAN), (by decide : kNAN ≠ []), allWs_nil⟩
  | some v => exact ⟨by simp [realP, render_sciP, fmtSci, rjust, sciCore, real, spaces], sciP_ok _ _ _ _ _⟩

theorem sci_head (d : Nat) (v : Sci) : ∃ c r, sciCoreC false 'E' d v = c :: r ∧ c ∈ '-' :: digitChars := by
  obtain ⟨c, r, h, hc⟩ := manDigits_head d v.man
  exact signed_head v.neg ⟨c, r ++ 'E' :: expStr v.exp, by rw [h]; rfl, hc⟩

theorem realP_head (L : Layout) (x : Option Sci) : ∃ c r, (realP L x).tok = c :: r ∧ c ≠ '<' := by
  cases x with
  | none => exact ⟨'N', ['A', 'N'], rfl, by decide⟩
  | some v =>
    obtain ⟨c, r, h, hc⟩ := sci_head L.d v
    exact ⟨c, r, h, (by decide : ∀ c ∈ '-' :: digitChars, c ≠ '<') c hc⟩

theorem pyReal_tok (L : Layout) (hL : LayoutOK L) (x : Option Sci) (hx : okSci L x = true) :
    pyReal L.d (realP L x).tok = some x := by
  cases x with
  | none => rfl
  | some v =>
    have hm : v.man < 10 ^ (L.d + 1) := by simpa [okSci] using hx
    obtain ⟨c, r, h, hc⟩ := sci_head L.d v
    have hs : strip (sciCoreC false 'E' L.d v) = sciCoreC false 'E' L.d v := by
      simpa using strip_noWs_pad [] _ [] allWs_nil allWs_nil (sciCoreC_noWs 'E' (by decide) L.d v)
    -- a sign or a digit is not the `N` of `NAN`
    have hne : (upper (sciCoreC false 'E' L.d v) == kNAN) = false := by
      have : upperC c ≠ 'N' := (by decide : ∀ c ∈ '-' :: digitChars, upperC c ≠ 'N') c hc
      simp [h, Chars.upper, kNAN, this]
    simp only [realP, sciP, if_true, pyReal, hs, hne, Bool.false_eq_true, if_false,
      pySci_sciCoreC_self 'E' (Or.inl rfl) L.d v hL hm, Option.map_some]

/-- typed decoding: the reals of a section come back digit by digit (NaN as NaN), for every number of them -/
theorem decodeReals_lines (L : Layout) (hL : LayoutOK L) (per : Nat) (hper : 0 < per) (l : List (Option Sci))
    (hx : ∀ x ∈ l, okSci L x = true) :
    decodeReals L.d (stripAll (numLines per (real L) l)) = some l := by
  unfold decodeReals
  rw [numLines_tokens per hper (real L) (realP L) (realP_spec L) l]
  exact optAll_map (pyReal L.d) (fun x => (realP L x).tok) l fun x hxm => pyReal_tok L hL x (hx x hxm)

theorem strip_digits (n : Nat) : strip (natToDec n ++ ['\n']) = natToDec n := by
  simpa using strip_noWs_pad [] (natToDec n) ['\n'] allWs_nil allWs_nl (allDigits_natToDec n).noWs

/-- the records of the orbital section: every `<MO Number>` record adds its number to `<MO Numbers>`, the coefficient
lines go under the section's tag -/
theorem run_moLines (L : Layout) (per : Nat) (hper : 0 < per) {d : Dict} (h1 : moTag ∉ keys d) (h2 : moNumbers ∉ keys d)
    (rest : List Str) : ∀ (orbs : List (List (Option Sci))) (i : Nat) (acc1 acc2 : List Str),
    run (d ++ [(moTag, acc1), (moNumbers, acc2)]) (some moTag) (moLines L per i orbs ++ rest)
      = run (d ++ [(moTag, acc1 ++ stripAll (orbs.flatMap fun cs => numLines per (real L) cs)),
          (moNumbers, acc2 ++ (List.range' (i + 1) orbs.length).map natToDec)]) (some moTag) rest
  | [], i, acc1, acc2 => by simp [moLines, stripAll]
  | cs :: orbs, i, acc1, acc2 => by
    have hne : moNumbers ≠ moTag := by decide
    have hnum : dictAppend [(moTag, acc1), (moNumbers, acc2)] moNumbers (natToDec (i + 1))
        = [(moTag, acc1), (moNumbers, acc2 ++ [natToDec (i + 1)])] := by simp [dictAppend, hne.symm]
    rw [moLines, List.cons_append, List.cons_append, List.cons_append, List.append_assoc, run_moNumber, strip_digits,
      dictAppend_append h2, hnum,
      run_plains (fun acc => d ++ [(moTag, acc), (moNumbers, acc2 ++ [natToDec (i + 1)])]) moTag
        (fun acc l => by rw [dictAppend_append h1]; simp [dictAppend, hne]) _ _ acc1
        (numLines_plain moTag per hper (real L) (realP L) (realP_spec L) (realP_head L) cs),
      run_moLines L per hper h1 h2 rest orbs (i + 1)]
    simp [stripAll, List.range'_succ]

/-- a section that is not the orbital section has one entry, and none of its lines is taken for a tag -/
theorem ordinary_section (L : Layout) (s : Sec) (hb : okBody L s.body = true) (hm : isMo s.body = false) (hk : s.tag ≠ moTag) :
    entries L s = [(s.tag, stripAll (bodyLines L s.body))] ∧ ∀ l ∈ bodyLines L s.body, plain s.tag l := by
  have hk' : (s.tag == moTag) = false := by simpa using hk
  cases hbody : s.body with
  | text ls =>
    refine ⟨by simp [entries, hbody], ?_⟩
    simp only [hbody, okBody, List.all_eq_true, okText, Bool.and_eq_true, Bool.not_eq_true'] at hb
    simp only [bodyLines, List.mem_map]
    rintro _ ⟨x, hx, rfl⟩
    exact ⟨by rw [strip_append_allWs x _ allWs_nl]; exact (hb x hx).2, by simp [hk']⟩
  | ints per li =>
    simp only [hbody, okBody, decide_eq_true_eq] at hb
    exact ⟨by simp [entries, hbody], numLines_plain _ per hb intToDec (intP 0) intP0_spec intToDec_head li⟩
  | reals per lr =>
    simp only [hbody, okBody, Bool.and_eq_true, decide_eq_true_eq] at hb
    exact ⟨by simp [entries, hbody], numLines_plain _ per hb.1 (real L) (realP L) (realP_spec L) (realP_head L) lr⟩
  | mo per orbs => simp [hbody, isMo] at hm

/-- the lines of one section take the reader from "no section open" back to it, with the section's entries added -/
theorem run_section (L : Layout) (s : Sec) (ht : okTag s.tag = true) (hb : okBody L s.body = true)
    (hmo : isMo s.body = true ↔ s.tag = moTag) {d : Dict} (hk : s.tag ∉ keys d) (hn : isMo s.body = true → moNumbers ∉ keys d)
    (rest : List Str) : run d none (dumpSec L s ++ rest) = run (d ++ entries L s) none rest := by
  rw [dumpSec, List.cons_append, List.append_assoc, run_open ht hk]
  by_cases hm : isMo s.body = true
  · have htag := hmo.mp hm
    obtain ⟨per, orbs, hbody⟩ : ∃ per orbs, s.body = .mo per orbs := by
      cases hb' : s.body <;> simp [hb', isMo] at hm ⊢
    have hper : 0 < per := by
      simp only [hbody, okBody, Bool.and_eq_true, decide_eq_true_eq] at hb; exact hb.1
    rw [htag] at hk ht ⊢
    simp only [beq_self_eq_true, if_true, hbody, bodyLines]
    rw [run_moLines L per hper hk (hn hm) _ orbs 0 [] [], List.cons_append, List.nil_append, run_close ht]
    simp [entries, hbody, htag, List.range'_eq_map_range, Nat.add_comm, Function.comp_def]
  · have hm' : isMo s.body = false := by simpa using hm
    have htag : s.tag ≠ moTag := fun e => hm (hmo.mpr e)
    obtain ⟨hent, hplain⟩ := ordinary_section L s hb hm' htag
    rw [if_neg (by simpa using htag), run_plains (fun acc => d ++ [(s.tag, acc)]) s.tag
      (fun acc l => by rw [dictAppend_append hk]; simp [dictAppend]) _ _ [] hplain, List.cons_append, List.nil_append,
      run_close ht, hent, List.nil_append]

theorem mem_keys_entries {L : Layout} {s : Sec} {k : Str} (h : k ∈ keys (entries L s)) :
    k = s.tag ∨ (k = moNumbers ∧ isMo s.body = true) := by
  cases hb : s.body with
  | mo per orbs => simpa [entries, keys, hb, isMo] using h
  | _ => exact Or.inl (by simpa [entries, keys, hb] using h)

/-- the reader, started between sections with any dictionary `d` whose keys the sections do not repeat, ends on the written
sections with `d` followed by their entries.  The key hypotheses are what the induction carries: a key is never seen twice,
because the tags are distinct and `<MO Numbers>`, which is no tag, is added by the one orbital section only -/
theorem run_dump (L : Layout) : ∀ (secs : List Sec) (d : Dict),
    (∀ s ∈ secs, okTag s.tag = true ∧ okBody L s.body = true ∧ (isMo s.body = true ↔ s.tag = moTag) ∧ s.tag ≠ moNumbers) →
    (secs.map (·.tag)).Nodup → (∀ s ∈ secs, s.tag ∉ keys d) → (moTag ∈ secs.map (·.tag) → moNumbers ∉ keys d) →
    run d none (dump L secs) = .ok (d ++ norm L secs)
  | [], d, _, _, _, _ => by simp [dump, norm, run_nil]
  | s :: secs, d, hs, hnd, hk, hmk => by
    obtain ⟨ht, hb, hmo, hnum⟩ := hs s List.mem_cons_self
    obtain ⟨hnd1, hnd2⟩ := List.nodup_cons.mp hnd
    have htags : ∀ s' ∈ secs, s'.tag ≠ s.tag := fun s' h' e => hnd1 (List.mem_map.mpr ⟨s', h', e⟩)
    rw [show dump L (s :: secs) = dumpSec L s ++ dump L secs from rfl,
      run_section L s ht hb hmo (hk s List.mem_cons_self) (fun hm => hmk (by simp [hmo.mp hm])),
      run_dump L secs (d ++ entries L s) (fun s' h' => hs s' (List.mem_cons_of_mem _ h')) hnd2 ?_ ?_]
    · simp [norm]
    · intro s' h' hmem
      rcases mem_keys_append.mp hmem with hmem | hmem
      · exact hk s' (List.mem_cons_of_mem _ h') hmem
      · rcases mem_keys_entries hmem with e | ⟨e, -⟩
        · exact htags s' h' e
        · exact (hs s' (List.mem_cons_of_mem _ h')).2.2.2 e
    · intro hin hmem
      rcases mem_keys_append.mp hmem with hmem | hmem
      · exact hmk (List.mem_cons_of_mem _ hin) hmem
      · rcases mem_keys_entries hmem with e | ⟨-, e⟩
        · exact hnum e.symm
        · obtain ⟨s', h', e'⟩ := List.mem_map.mp hin
          exact htags s' h' (e'.trans (hmo.mp e).symm)

/-- C02 for WFX files at the section level: `parse_wfx` on the written file holds every section under its tag with its
lines, and the orbital numbers under `<MO Numbers>`, for every list of well-formed sections -/
theorem parse_dump (L : Layout) (secs : List Sec) (h : Dom L secs) : parse (dump L secs) = .ok (norm L secs) := by
  show run [] none (dump L secs) = _
  simpa using run_dump L secs [] h.1 h.2 (fun _ _ => not_mem_keys_nil _) (fun _ => not_mem_keys_nil _)

theorem entries_normSec (L : Layout) (s : Sec) : entries L (normSec s) = entries L s := by
  cases hb : s.body with
  | text ls =>
    simp only [entries, normSec, normBody, hb, bodyLines, stripAll, List.map_map, Function.comp_def,
      strip_append_allWs _ _ allWs_nl, strip_strip]
  | _ => simp [entries, normSec, normBody, hb]

/-- C15 for WFX sections: normalising the sections first does not change what a reload returns -/
theorem norm_normSec (L : Layout) (secs : List Sec) : norm L (secs.map normSec) = norm L secs := by
  simp only [norm, List.flatMap_map, entries_normSec]

theorem normSec_idem (s : Sec) : normSec (normSec s) = normSec s := by
  cases hb : s.body with
  | text ls => simp only [normSec, normBody, hb, List.map_map, Function.comp_def, strip_strip]
  | _ => simp [normSec, normBody, hb]

theorem dom_normSec (L : Layout) (secs : List Sec) (h : Dom L secs) : Dom L (secs.map normSec) := by
  refine ⟨?_, by simpa [List.map_map, Function.comp_def, normSec] using h.2⟩
  intro s' hs'
  obtain ⟨s, hs, rfl⟩ := List.mem_map.mp hs'
  obtain ⟨h1, h2, h3, h4⟩ := h.1 s hs
  refine ⟨h1, ?_, ?_, h4⟩
  · cases hb : s.body with
    | text ls =>
      simp only [hb, okBody, List.all_eq_true, okText, Bool.and_eq_true, Bool.not_eq_true'] at h2
      simp only [normSec, normBody, hb, okBody, List.all_eq_true, List.mem_map, okText, Bool.and_eq_true, Bool.not_eq_true']
      rintro _ ⟨l, hl, rfl⟩
      have hn : '\n' ∉ l := by simpa using (h2 l hl).1
      exact ⟨by simpa using fun h => hn (mem_of_mem_strip h), by rw [strip_strip]; exact (h2 l hl).2⟩
    | _ => simpa [normSec, normBody, hb] using h2
  · cases hb : s.body <;> simpa [normSec, normBody, hb, isMo] using h3

end Iodata.Fmt.WfxS
