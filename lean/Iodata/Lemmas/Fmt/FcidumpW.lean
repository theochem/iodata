/- FCIDUMP, full file: header namelist, data lines, the data loop over the three groups of lines, C02 and C15. -/
import Iodata.Lemmas.Fmt.Fcidump
import Iodata.Lemmas.Fmt.Fchk
import Iodata.Lemmas.Fmt.Fields
import Iodata.Lemmas.DecimalSci
import Iodata.Model.Fmt.FcidumpW
namespace Iodata.Fmt.FcidumpW
open Iodata.Chars Iodata.Decimal Iodata.Fmt Iodata.Helpers Iodata.Fmt.Fcidump

theorem pyRound_int (k : Int) : pyRound k 1 = k := by
  simp [pyRound]

theorem roundOpt_int (k : Int) : roundOpt (some (k, 1)) = k := pyRound_int k

theorem splitOnGo_skip (c : Char) (a r : Str) (h : c ∉ a) : ∀ cur, splitOnGo c cur (a ++ r) = splitOnGo c (cur ++ a) r := by
  induction a with
  | nil => intro cur; simp
  | cons x a ih =>
    intro cur
    have hx : (x == c) = false := by
      simp only [beq_eq_false_iff_ne, ne_eq]; intro e; exact h (by simp [e])
    simp only [List.cons_append, splitOnGo, hx, Bool.false_eq_true, if_false]
    rw [ih fun hc => h (List.mem_cons_of_mem _ hc)]; simp

theorem splitOnGo_sep (c : Char) (a rest : Str) (h : c ∉ a) (cur : Str) :
    splitOnGo c cur (a ++ c :: rest) = (cur ++ a) :: splitOnGo c [] rest := by
  rw [splitOnGo_skip c a _ h]; simp [splitOnGo]

theorem splitOnGo_last (c : Char) (a : Str) (h : c ∉ a) (cur : Str) : splitOnGo c cur a = [cur ++ a] := by
  have := splitOnGo_skip c a [] h cur
  simpa [splitOnGo] using this

theorem countC_append (c : Char) (a b : Str) : countC c (a ++ b) = countC c a + countC c b := by
  simp [countC]

theorem countC_zero (c : Char) (a : Str) (h : c ∉ a) : countC c a = 0 := by
  unfold countC
  rw [List.length_eq_zero_iff, List.filter_eq_nil_iff]
  intro x hx hxc
  have : x = c := by simpa using hxc
  exact h (this ▸ hx)

theorem intToDec_not_mem (i : Int) (c : Char) (hc : c ∉ digitChars) (hm : c ≠ '-') : c ∉ intToDec i := by
  cases i with
  | ofNat n => exact (allDigits_natToDec n).not_mem hc
  | negSucc n =>
    intro h
    rcases List.mem_cons.mp h with h | h
    · exact hm h
    · exact (allDigits_natToDec _).not_mem hc h

theorem natToDec_eq_intToDec (n : Nat) : natToDec n = intToDec (n : Int) := rfl

def kv (k : Str) (v : Str) : Str := k ++ ('=' :: v)

theorem headerInfo_word (pre k : Str) (v : Str) (hk : '=' ∉ pre ++ k) (hv : '=' ∉ v) (hs : strip (pre ++ k) = k) (hvn : NoWs v) :
    headerWord (pre ++ k ++ '=' :: v) = some (k, v) := by
  unfold headerWord
  have hc : countC '=' (pre ++ k ++ '=' :: v) = 1 := by
    rw [countC_append, countC_zero _ _ hk]
    have : countC '=' ('=' :: v) = 1 + countC '=' v := by simp [countC]; omega
    rw [this, countC_zero _ _ hv]
  have hsplit : splitOn '=' (pre ++ k ++ '=' :: v) = [pre ++ k, v] := by
    unfold splitOn
    rw [splitOnGo_sep '=' (pre ++ k) v hk, splitOnGo_last '=' v hv]; simp
  rw [hc, hsplit]
  simp only [if_true, hs]
  have : strip v = v := by
    have := strip_noWs_pad [] v [] allWs_nil allWs_nil hvn
    simpa using this
  rw [this]

theorem headerInfo_headerLine (n : Nat) (ne ms : Int) :
    headerInfo (headerLine n ne ms) = [(kNorb, natToDec n), (kNelec, intToDec ne), (kMs2, intToDec ms)] := by
  have hcomma : ∀ i : Int, ',' ∉ intToDec i := fun i => intToDec_not_mem i ',' (by decide) (by decide)
  have heq : ∀ i : Int, '=' ∉ intToDec i := fun i => intToDec_not_mem i '=' (by decide) (by decide)
  have e : sliceFrom hdrCut (headerLine n ne ms)
      = ([' '] ++ kNorb ++ '=' :: intToDec (n : Int)) ++ ',' :: (([] ++ kNelec ++ '=' :: intToDec ne) ++ ',' :: (([] ++ kMs2 ++ '=' :: intToDec ms) ++ ',' :: ['\n'])) := by
    simp [headerLine, hdrStart, hdrNelec, hdrMs2, sliceFrom, hdrCut, kNorb, kNelec, kMs2, natToDec_eq_intToDec]
  unfold headerInfo splitOn
  rw [e]
  have m : ∀ (pre : Str) (i : Int), ',' ∉ pre → ',' ∉ pre ++ '=' :: intToDec i := by
    intro pre i hp h
    rcases List.mem_append.mp h with h | h
    · exact hp h
    · rcases List.mem_cons.mp h with h | h
      · revert h; decide
      · exact hcomma i h
  rw [splitOnGo_sep ',' _ _ (m _ _ (by decide)), splitOnGo_sep ',' _ _ (m _ _ (by decide)), splitOnGo_sep ',' _ _ (m _ _ (by decide)),
    splitOnGo_last ',' ['\n'] (by decide)]
  have w1 := headerInfo_word [' '] kNorb (intToDec (n : Int)) (by decide) (heq _) (by decide) (intToDec_noWs _)
  have w2 := headerInfo_word [] kNelec (intToDec ne) (by decide) (heq _) (by decide) (intToDec_noWs _)
  have w3 := headerInfo_word [] kMs2 (intToDec ms) (by decide) (heq _) (by decide) (intToDec_noWs _)
  have w4 : headerWord ['\n'] = none := by decide
  simp only [List.nil_append] at w2 w3 ⊢
  simp only [List.filterMap_cons, List.filterMap_nil, w1, w2, w3, w4]
  rfl

theorem startsWith_headerLine (n : Nat) (ne ms : Int) : startsWith hdrStart (headerLine n ne ms) = true := by
  simp [startsWith, headerLine]

theorem dict_headerLine (n : Nat) (ne ms : Int) :
    (dictGet (headerInfo (headerLine n ne ms)) kNorb).bind pyInt = some (n : Int) ∧
    (dictGet (headerInfo (headerLine n ne ms)) kNelec).bind pyInt = some ne ∧
    (dictGet (headerInfo (headerLine n ne ms)) kMs2).bind pyInt = some ms := by
  rw [headerInfo_headerLine]
  have a : dictGet [(kNorb, natToDec n), (kNelec, intToDec ne), (kMs2, intToDec ms)] kNorb = some (natToDec n) := rfl
  have b : dictGet [(kNorb, natToDec n), (kNelec, intToDec ne), (kMs2, intToDec ms)] kNelec = some (intToDec ne) := rfl
  have c : dictGet [(kNorb, natToDec n), (kNelec, intToDec ne), (kMs2, intToDec ms)] kMs2 = some (intToDec ms) := rfl
  rw [a, b, c]
  exact ⟨by simpa [natToDec_eq_intToDec] using Fchk.pyInt_tok (n : Int), by simpa using Fchk.pyInt_tok ne, by simpa using Fchk.pyInt_tok ms⟩

theorem skipHeader_tail (n : Nat) (data : List Str) :
    skipHeader (orbsymLine n :: (isymLine ++ ['\n']) :: (endLine ++ ['\n']) :: data) = .ok data := by
  have h1 : splitWs (orbsymLine n) = ['O','R','B','S','Y','M','='] :: splitWs (' ' :: (ones n ++ [',', '\n'])) := by
    have : orbsymLine n = [' ', ' '] ++ (['O','R','B','S','Y','M','='] ++ (' ' :: (ones n ++ [',', '\n']))) := by
      simp [orbsymLine, orbsymHead]
    rw [this]
    exact splitWs_field _ _ _ (by decide) (by decide) (by decide) (brk_space _)
  have h2 : splitWs (isymLine ++ ['\n']) = [['I','S','Y','M','=','1']] := by decide
  have h3 : splitWs (endLine ++ ['\n']) = [['&','E','N','D']] := by decide
  rw [skipHeader, h1]
  simp only
  rw [if_neg (by decide), skipHeader, h2]
  simp only
  rw [if_neg (by decide), skipHeader, h3]
  simp only
  rw [if_pos (by decide)]

theorem pySci_core (d : Nat) (hd : 0 < d) (v : Sci) (hm : v.man < 10 ^ (d + 1)) : pySci d (sciCore false false d v) = some v :=
  pySci_sciCoreC_self 'e' (Or.inr rfl) d v hd hm

theorem dataLine_words (L : Layout) (v : Sci) (a b c d : Nat) :
    splitWs (dataLine L v a b c d) = [sciCore false false L.vD v, natToDec a, natToDec b, natToDec c, natToDec d] := by
  have e : dataLine L v a b c d =
      ((sciP false false L.vW L.vD v :: [a, b, c, d].map fun i : Nat => (intP L.iW (i : Int)).sp).map Padded.render).flatten ++ ['\n'] := by
    simp [dataLine, idx, render_sciP, render_intP, Padded.render_sp]
  rw [e, splitWs_line _ ?_ ?_]
  · rfl
  · simp [sciP_ok, (intP_ok _ _).sp]
  · simp [Padded.sp_pre_ne_nil]

theorem natToDec_zero : natToDec 0 = w0 := by decide

theorem natToDec_succ_ne_zero (k : Nat) : (natToDec (k + 1) != w0) = true := by
  simp only [bne_iff_ne, ne_eq, ← natToDec_zero]
  intro h
  have := congrArg decToNat? h
  simp [decToNat_natToDec] at this

theorem parse_two (L : Layout) (hL : LayoutOK L) (v : Sci) (hv : okSci L v) (i j k l : Nat) :
    parseLine L.vD (dataLine L v (i + 1) (j + 1) (k + 1) (l + 1)) = .ok (.two v i j k l) := by
  unfold parseLine
  rw [dataLine_words]
  simp only [pySci_core L.vD hL v hv, natToDec_succ_ne_zero, if_true, pyInt_natToDec]
  simp

theorem parse_one (L : Layout) (hL : LayoutOK L) (v : Sci) (hv : okSci L v) (i j : Nat) :
    parseLine L.vD (dataLine L v (i + 1) (j + 1) 0 0) = .ok (.one v i j) := by
  unfold parseLine
  rw [dataLine_words]
  simp only [pySci_core L.vD hL v hv, natToDec_succ_ne_zero, natToDec_zero, bne_self_eq_false, Bool.false_eq_true, if_false,
    if_true, pyInt_natToDec]
  simp

theorem parse_core (L : Layout) (hL : LayoutOK L) (v : Sci) (hv : okSci L v) :
    parseLine L.vD (dataLine L v 0 0 0 0) = .ok (.core v) := by
  unfold parseLine
  rw [dataLine_words]
  simp only [pySci_core L.vD hL v hv, natToDec_zero, bne_self_eq_false, Bool.false_eq_true, if_false]

theorem dataLoop_map {α} (d n : Nat) (w : α → Str) (r : α → Rec) (f : St → α → St) (rest : List Str) :
    ∀ (xs : List α) (s : St), (∀ x ∈ xs, parseLine d (w x) = .ok (r x)) → (∀ x ∈ xs, ∀ s, applyRec n s (r x) = .ok (f s x)) →
    dataLoop d n s (xs.map w ++ rest) = dataLoop d n (xs.foldl f s) rest := by
  intro xs
  induction xs with
  | nil => intro s _ _; rfl
  | cons x xs ih =>
    intro s hp ha
    simp only [List.map_cons, List.cons_append, dataLoop, hp x List.mem_cons_self, ha x List.mem_cons_self s, List.foldl_cons]
    exact ih _ (fun y hy => hp y (List.mem_cons_of_mem _ hy)) (fun y hy => ha y (List.mem_cons_of_mem _ hy))

theorem inR_nat (n i : Nat) (h : i < n) : inR n (i : Int) = true := by
  simp [inR]; omega

def stepTwo (s : St) (e : Entry Sci) : St := { s with two := setFour s.two e.i0 e.i2 e.i1 e.i3 e.v }
def stepOne (s : St) (e : Sci × Nat × Nat) : St := { s with one := set2 s.one e.2.1 e.2.2 e.1 }

theorem foldl_stepTwo (es : List (Entry Sci)) : ∀ s : St,
    es.foldl stepTwo s = ⟨s.one, es.foldl (fun a e => setFour a e.i0 e.i2 e.i1 e.i3 e.v) s.two, s.core⟩ := by
  induction es with
  | nil => intro s; rfl
  | cons e es ih => intro s; simp only [List.foldl_cons]; rw [ih]; rfl

def fillOne (a : Nat → Nat → Sci) (es : List (Sci × Nat × Nat)) : Nat → Nat → Sci :=
  es.foldl (fun a e => set2 a e.2.1 e.2.2 e.1) a

theorem foldl_stepOne (es : List (Sci × Nat × Nat)) : ∀ s : St,
    es.foldl stepOne s = ⟨fillOne s.one es, s.two, s.core⟩ := by
  induction es with
  | nil => intro s; rfl
  | cons e es ih => intro s; simp only [List.foldl_cons]; rw [ih]; rfl

def covers (e : Sci × Nat × Nat) (i j : Nat) : Prop := (i = e.2.2 ∧ j = e.2.1) ∨ (i = e.2.1 ∧ j = e.2.2)

instance (e : Sci × Nat × Nat) (i j : Nat) : Decidable (covers e i j) := by unfold covers; infer_instance

theorem mem_oneEntries (n : Nat) (M : Nat → Nat → Sci) (e : Sci × Nat × Nat) :
    e ∈ oneEntries n M ↔ e.2.1 < n ∧ e.2.2 ≤ e.2.1 ∧ (M e.2.1 e.2.2).man ≠ 0 ∧ e.1 = M e.2.1 e.2.2 := by
  obtain ⟨v, i0, i1⟩ := e
  simp only [oneEntries, List.mem_flatMap, List.mem_range, List.mem_filterMap]
  constructor
  · rintro ⟨a, ha, b, hb, h⟩
    split at h
    · rename_i hc
      simp only [Option.some.injEq, Prod.mk.injEq] at h
      obtain ⟨rfl, rfl, rfl⟩ := h
      exact ⟨ha, by omega, hc, rfl⟩
    · cases h
  · rintro ⟨h0, h1, h2, h3⟩
    refine ⟨i0, h0, i1, by omega, ?_⟩
    simp [h2, h3]

theorem cz_of_ne {v : Sci} (h : v.man ≠ 0) : cz v = v := by simp [cz, h]
theorem cz_of_eq {v : Sci} (h : v.man = 0) : cz v = zero := by simp [cz, h]

theorem fillOne_entries (n : Nat) (M : Nat → Nat → Sci) (hs : ∀ i j, M i j = M j i) (i j : Nat) :
    fillOne (fun _ _ => zero) (oneEntries n M) i j = if i < n ∧ j < n then cz (M i j) else zero := by
  unfold fillOne
  rcases foldl_cover (fun a : Nat → Nat → Sci => a i j) (fun e : Sci × Nat × Nat => covers e i j) (·.1)
      (fun a e => set2 a e.2.1 e.2.2 e.1) (fun _ _ => rfl) (oneEntries n M) (fun _ _ => zero) with ⟨e, he, hc, h1⟩ | ⟨h1, h2⟩
  · -- the last line covering the position is inside the matrix and carries its element
    obtain ⟨b0, b1, h2, h3⟩ := (mem_oneEntries n M e).mp he
    rw [h1, h3]
    rcases hc with ⟨rfl, rfl⟩ | ⟨rfl, rfl⟩
    · rw [if_pos ⟨by omega, b0⟩, hs e.2.2 e.2.1, cz_of_ne h2]
    · rw [if_pos ⟨b0, by omega⟩, cz_of_ne h2]
  · -- no line covers the position: it is outside the matrix or its element is zero
    rw [h1]
    by_cases hr : i < n ∧ j < n
    · rw [if_pos hr]
      by_cases hm : (M i j).man = 0
      · exact (cz_of_eq hm).symm
      · exfalso
        by_cases hij : j ≤ i
        · exact h2 (M i j, i, j) ((mem_oneEntries n M _).mpr ⟨hr.1, hij, hm, rfl⟩) (Or.inr ⟨rfl, rfl⟩)
        · have hm' : (M j i).man ≠ 0 := by rw [hs j i]; exact hm
          exact h2 (M j i, j, i) ((mem_oneEntries n M _).mpr ⟨hr.2, (by show i ≤ j; omega), hm', rfl⟩) (Or.inl ⟨rfl, rfl⟩)
    · rw [if_neg hr]

theorem written_range (n i j k l : Nat) (hi : i < n) (hj : j < n) (hk : k < n) (hl : l < n) (p : Idx) (hp : p ∈ written i j k l) :
    inRange n p := by
  simp only [written, List.mem_cons, List.not_mem_nil, or_false] at hp
  rcases hp with rfl | rfl | rfl | rfl | rfl | rfl | rfl | rfl <;> exact ⟨by assumption, by assumption, by assumption, by assumption⟩

theorem sym_cz (T : Idx → Sci) (h : Sym T) : Sym (fun p => cz (T p)) :=
  ⟨fun p => by simp only [h.1 p], fun p => by simp only [h.2.1 p], fun p => by simp only [h.2.2 p]⟩

/-- the domain's symmetry condition is that of the index layer -/
theorem sym8_iff {T : Idx → Sci} : Sym8 T ↔ Sym T := Iff.rfl

theorem fill_two (n : Nat) (T : Idx → Sci) (h : Sym T) (p : Idx) :
    fill zero (entries zero n (fun p => cz (T p))) p = if inRange n p then cz (T p) else zero := by
  by_cases hr : inRange n p
  · rw [if_pos hr]
    exact fill_entries zero n _ (sym_cz T h) p hr
  · rw [if_neg hr]
    unfold fill
    rcases foldl_cover (fun a : Idx → Sci => a p) (fun e : Entry Sci => p ∈ written e.i0 e.i2 e.i1 e.i3) (·.v)
        (fun a e => setFour a e.i0 e.i2 e.i1 e.i3 e.v) (fun a e => setFour_mem a _ _ _ _ _ p)
        (entries zero n fun p => cz (T p)) (fun _ => zero) with ⟨e, he, hp, _⟩ | ⟨h1, _⟩
    · obtain ⟨a, b, c, d⟩ := entries_in_range zero n _ e he
      exact absurd (written_range n e.i0 e.i2 e.i1 e.i3 a c b d p hp) hr
    · exact h1

theorem dataLoop_dump (L : Layout) (hL : LayoutOK L) (o : Obj) (h : Dom L o) :
    dataLoop L.vD o.n st0 (twoLines L o.n o.two ++ (oneLines L o.n o.one ++ coreLines L o.core)) =
      .ok ⟨fillOne (fun _ _ => zero) (oneEntries o.n o.one), fill zero (entries zero o.n (fun p => cz (o.two p))), o.core.getD zero⟩ := by
  obtain ⟨hs1, hs2, hk1, hk2, hkc⟩ := h
  unfold twoLines
  rw [dataLoop_map L.vD o.n _ (fun e => Rec.two e.v e.i0 e.i1 e.i2 e.i3) stepTwo]
  · rw [foldl_stepTwo]
    unfold oneLines
    rw [dataLoop_map L.vD o.n _ (fun e => Rec.one e.1 e.2.1 e.2.2) stepOne]
    · rw [foldl_stepOne]
      cases hc : o.core with
      | none => simp [coreLines, dataLoop, st0, fill]
      | some c =>
        simp only [coreLines, dataLoop, parse_core L hL c (hkc c hc), applyRec, st0, fill, Option.getD_some]
    · intro e he
      obtain ⟨_, _, _, h3⟩ := (mem_oneEntries o.n o.one e).mp he
      exact parse_one L hL e.1 (h3 ▸ hk1 _ _) e.2.1 e.2.2
    · intro e he s
      obtain ⟨b0, b1, _, _⟩ := (mem_oneEntries o.n o.one e).mp he
      simp only [applyRec, inR_nat o.n e.2.1 b0, inR_nat o.n e.2.2 (by omega), Bool.and_self, if_true, Int.toNat_natCast]
      rfl
  · intro e he
    have hv := ((mem_entries zero o.n _ e).mp he).2.2.2.2.2
    have : okSci L e.v := by
      rw [hv.2, cz_of_ne (by
        intro hz; exact hv.1 (cz_of_eq hz))]
      exact hk2 _
    exact parse_two L hL e.v this e.i0 e.i1 e.i2 e.i3
  · intro e he s
    obtain ⟨a, b, c, d⟩ := entries_in_range zero o.n _ e he
    simp only [applyRec, inR_nat o.n _ a, inR_nat o.n _ b, inR_nat o.n _ c, inR_nat o.n _ d, Bool.and_self, if_true, Int.toNat_natCast]
    rfl

/-- C02 for FCIDUMP files: every number of orbitals, every symmetric one-electron matrix and 8-fold symmetric two-electron
array (zero elements skipped), present or absent core energy, any real `nelec` / `spinpol` -/
theorem load_dump (L : Layout) (hL : LayoutOK L) (o : Obj) (h : Dom L o) : load L (dump L o) = .ok (norm o) := by
  have hd := dataLoop_dump L hL o h
  obtain ⟨d1, d2, d3⟩ := dict_headerLine o.n (roundOpt o.nelec) (roundOpt o.spinpol)
  unfold dump load
  simp only [List.cons_append, List.nil_append, startsWith_headerLine, Bool.not_true, Bool.false_eq_true, if_false, d1, d2, d3]
  have hneg : ¬ ((o.n : Int) < 0) := by omega
  rw [if_neg hneg, skipHeader_tail]
  have e1 := funext fun i => funext fun j => fillOne_entries o.n o.one h.1 i j
  have e2 := funext fun p => fill_two o.n o.two (sym8_iff.mp h.2.1) p
  simp only [Int.toNat_natCast, hd, e1, e2, norm]

theorem cz_idem (v : Sci) : cz (cz v) = cz v := by
  unfold cz; by_cases h : v.man = 0 <;> simp [h, zero]

theorem cz_zero : cz zero = zero := by simp [cz, zero]

theorem norm_idem (o : Obj) : norm (norm o).obj = norm o := by
  unfold norm Loaded.obj
  simp only [roundOpt_int, Option.getD_some]
  congr 1
  · funext i j
    by_cases h : i < o.n ∧ j < o.n <;> simp [h, cz_idem]
  · funext p
    by_cases h : inRange o.n p <;> simp [h, cz_idem]

theorem okSci_zero (L : Layout) : okSci L zero := by unfold okSci zero; exact Nat.pow_pos (by decide)

theorem okSci_cz (L : Layout) (v : Sci) (h : okSci L v) : okSci L (cz v) := by
  unfold cz
  split
  · exact okSci_zero L
  · exact h

theorem restrict_sym (n : Nat) (T : Idx → Sci) (σ : Idx → Idx) (hr : ∀ p, inRange n (σ p) ↔ inRange n p) (hT : ∀ p, T (σ p) = T p)
    (p : Idx) : (if inRange n (σ p) then cz (T (σ p)) else zero) = if inRange n p then cz (T p) else zero := by
  simp only [hr p, hT p]

theorem dom_norm (L : Layout) (o : Obj) (h : Dom L o) : Dom L (norm o).obj := by
  obtain ⟨hs1, hs2, hk1, hk2, hkc⟩ := h
  refine ⟨?_, ⟨?_, ?_, ?_⟩, ?_, ?_, ?_⟩
  · intro i j
    simp only [norm, Loaded.obj]
    by_cases h : i < o.n ∧ j < o.n
    · rw [if_pos h, if_pos ⟨h.2, h.1⟩, hs1 i j]
    · rw [if_neg h, if_neg (fun h' => h ⟨h'.2, h'.1⟩)]
  · exact restrict_sym o.n o.two swapE (fun p => by simp only [inRange, swapE]; omega) hs2.1
  · exact restrict_sym o.n o.two swap1 (fun p => by simp only [inRange, swap1]; omega) hs2.2.1
  · exact restrict_sym o.n o.two swap2 (fun p => by simp only [inRange, swap2]; omega) hs2.2.2
  · intro i j
    simp only [norm, Loaded.obj]
    split
    · exact okSci_cz L _ (hk1 i j)
    · exact okSci_zero L
  · intro p
    simp only [norm, Loaded.obj]
    split
    · exact okSci_cz L _ (hk2 p)
    · exact okSci_zero L
  · intro c hc
    simp only [norm, Loaded.obj, Option.some.injEq] at hc
    subst hc
    cases hcc : o.core with
    | none => exact okSci_zero L
    | some c => exact hkc c hcc

end Iodata.Fmt.FcidumpW
