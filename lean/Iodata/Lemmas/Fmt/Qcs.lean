/- QCSchema molecule core: dictionary look-ups in the written file, value conversions, C02 and C15 (provenance excepted). -/
import Iodata.Lemmas.Fmt.Assoc
import Iodata.Lemmas.Chars
import Iodata.Model.Fmt.Qcs
namespace Iodata.Fmt.Qcs
open Iodata.Chars Iodata.Decimal Iodata.Fmt

theorem keys_entriesAll (T : Tables) (K : Keys) (m : Mol) : (entriesAll T K m).map (·.1) = allKeys K ++ m.unparsed.map (·.1) := by
  simp [entriesAll, coreEntries, allKeys, List.map_map, Function.comp_def]

theorem keys_coreEntries (T : Tables) (K : Keys) (m : Mol) : (coreEntries T K m).map (·.1) = allKeys K := by
  simp [coreEntries, allKeys, List.map_map, Function.comp_def]

theorem fst_of_map_pair {κ ν : Type} {k : κ} {o : Option ν} {b : κ × ν} (h : o.map (fun v => (k, v)) = some b) : b.1 = k := by
  cases o with
  | none => cases h
  | some v => rw [← Option.some.inj h]

theorem fget_dump (T : Tables) (K : Keys) (m : Mol) (hn : ((entriesAll T K m).map (·.1)).Nodup) (k : Str) (o : Option V)
    (h : (k, o) ∈ entriesAll T K m) : fget (dump T K m) k = o := by
  unfold fget dump
  rw [lookupK_filterMap (entriesAll T K m) (fun e => e.2.map fun v => (e.1, v)) (·.1) (fun _ _ => fst_of_map_pair) k hn]
  have := find_self (entriesAll T K m) (·.1) hn (k, o) h
  simp only at this
  rw [this]
  cases o <;> rfl

theorem fget_dump_none (T : Tables) (K : Keys) (m : Mol) (k : Str) (h : k ∉ (entriesAll T K m).map (·.1)) : fget (dump T K m) k = none := by
  unfold fget dump
  exact lookupK_filterMap_none (entriesAll T K m) (fun e => e.2.map fun v => (e.1, v)) (·.1) (fun _ _ => fst_of_map_pair) k h

theorem pred_succ (q : Q) : predQ (succQ q) = q := by
  cases q; simp [predQ, succQ]

theorem okZ_spec {T : Tables} {z : Nat} (h : okZ T z = true) : T.num? (title (T.sym z)) = some z := by
  unfold okZ at h
  cases e : T.sym? z with
  | none => simp [e] at h
  | some s => simp only [e, beq_iff_eq] at h; simpa [Tables.sym, e] using h

theorem okZ_of_entry {T : Tables} {z : Nat} {s : Str} (hs : T.sym? z = some s) (hn : T.num? s = some z)
    (ht : title s = s) : okZ T z = true := by
  simp [okZ, hs, ht, hn]

theorem optAll_syms (T : Tables) (zs : List Nat) (h : ∀ z ∈ zs, okZ T z = true) :
    optAll (fun s => T.num? (title s)) (zs.map T.sym) = some zs := by
  induction zs with
  | nil => rfl
  | cons z zs ih =>
    simp only [List.map_cons, optAll, okZ_spec (h z List.mem_cons_self), ih (fun y hy => h y (List.mem_cons_of_mem _ hy))]

theorem maskCore_bools (zs : List Nat) (qs : List Q) :
    maskCore zs (some (qs.map fun q => !isZero q)) = (zs.zip qs).map fun p => if isZero p.2 then ⟨false, 0, 1⟩ else floatQ p.1 := by
  simp only [maskCore, List.zip_map_right, List.map_map, Function.comp_def]
  apply List.map_congr_left
  intro p _
  cases h : isZero p.2 <;> simp [Prod.map, h]

theorem unparsedIn_dump (T : Tables) (K : Keys) (known : List Str) (m : Mol) (hk : ∀ k ∈ allKeys K, known.contains k = true)
    (hu : ∀ e ∈ m.unparsed, known.contains e.1 = false) : unparsedIn known (dump T K m) = m.unparsed := by
  unfold unparsedIn dump entriesAll
  rw [List.filterMap_filterMap, List.filterMap_append, List.filterMap_eq_nil_iff.mpr ?_, List.nil_append, List.filterMap_map]
  · rw [filterMap_congr_mem (g := some) fun e he => by simpa [rawOf] using hu e he, List.filterMap_some]
  · intro e he
    have hm : e.1 ∈ allKeys K := by rw [← keys_coreEntries T K m]; exact List.mem_map_of_mem he
    have hkn := hk e.1 hm
    cases hv : e.2 with
    | none => rfl
    | some v => simp only [Option.map_some, Option.bind_some, hkn, if_true]

theorem nodup_entries (T : Tables) (K : Keys) (known : List Str) (b : Bool) (m : Mol) (hK : KeysOK K K known) (h : Dom T K known b m) :
    ((entriesAll T K m).map (·.1)).Nodup := by
  rw [keys_entriesAll, List.nodup_append]
  refine ⟨hK.2.1, h.2.2.2.2.2.2, ?_⟩
  intro a ha b hb hab
  have h1 := hK.2.2.1 a ha
  obtain ⟨e, he, rfl⟩ := List.mem_map.mp hb
  have h2 := h.2.2.2.2.2.1 e he
  rw [hab, h2] at h1; cases h1

theorem passIn_dump (T : Tables) (K : Keys) (m : Mol) (hn : ((entriesAll T K m).map (·.1)).Nodup) :
    passIn K.pass (dump T K m) = K.pass.filterMap (fun p => (lookupK m.extra p.1).map fun r => (p.1, r)) := by
  unfold passIn
  apply filterMap_congr_mem
  intro p hp
  have hm : (p.2, (lookupK m.extra p.1).map V.raw) ∈ entriesAll T K m := by
    simp only [entriesAll, coreEntries, List.mem_append, List.mem_cons, List.mem_map]
    exact Or.inl (Or.inr ⟨p, hp, rfl⟩)
  rw [fget_dump T K m hn _ _ hm]
  cases lookupK m.extra p.1 <;> rfl

/-- C02 for the QCSchema molecule core: every mapped key comes back under its attribute with its value -/
theorem load_dump (T : Tables) (K : Keys) (known : List Str) (b : Bool) (hK : KeysOK K K known) (m : Mol) (h : Dom T K known b m) :
    load T K known b (dump T K m) = .ok (norm K.pass m) := by
  have hn := nodup_entries T K known b m hK h
  -- every key of the writer's list is looked up with the value the list gives it
  have g : ∀ e ∈ coreEntries T K m, fget (dump T K m) e.1 = e.2 :=
    fun e he => fget_dump T K m hn e.1 e.2 (List.mem_append_left _ he)
  simp only [coreEntries, List.cons_append, List.nil_append, List.forall_mem_cons] at g
  obtain ⟨-, g11, g1, g2, g3, g4, g5, g6, g7, g8, g9, g10, -⟩ := g
  have c1 : chargeOf (m.charge.map V.num) = .ok (m.charge.getD ⟨false, 0, 1⟩) := by cases m.charge <;> rfl
  have c2 : spinOf (m.spinpol.map fun s => V.num (succQ s)) = .ok ((m.spinpol.map fun s => predQ (succQ s)).getD ⟨true, 0, 1⟩) := by
    cases m.spinpol <;> rfl
  have c3 : provOf (some (provOut m.prov)) = .ok (provGrow m.prov) := by cases m.prov <;> rfl
  have c4 : strO ((m.title.filter fun t => !t.isEmpty).map V.str) = m.title.filter fun t => !t.isEmpty := by
    cases (m.title.filter fun t => !t.isEmpty) <;> rfl
  have c5 : numsO (m.atmasses.map V.nums) = m.atmasses := by cases m.atmasses <;> rfl
  have c6 : bondsOf b (m.bonds.map V.triples) = .ok m.bonds := by
    cases hb : m.bonds with
    | none => rfl
    | some l =>
      cases b with
      | true => simp [bondsOf]
      | false =>
        have : l ≠ [] := fun e => h.1 rfl (by rw [hb, e])
        have : l.isEmpty = false := by cases l; exact absurd rfl this; rfl
        simp [bondsOf, this]
  have c7 : numO ((m.grot.filter fun g => !isZero g).map V.num) = m.grot.filter fun g => !isZero g := by
    cases (m.grot.filter fun g => !isZero g) <;> rfl
  unfold load
  simp only [g1, g2, g3, g4, g5, g6, g7, g8, g9, g10, g11, optAll_syms T m.atnums h.2.1, c1, c2, c3, c4, c5, c6, c7, realOf,
    passIn_dump T K m hn, unparsedIn_dump T K known m hK.2.2.1 h.2.2.2.2.2.1]
  rfl

def provLen : Prov → Nat
  | .none => 0
  | .one _ => 1
  | .many l => l.length

theorem provLen_grow (p : Prov) : provLen (provGrow p) = provLen p + 1 := by
  cases p <;> simp [provLen, provGrow]

theorem maskCore_idem (zs : List Nat) (bs : List Bool) :
    maskCore zs (some ((maskCore zs (some bs)).map fun q => !isZero q)) = maskCore zs (some bs) := by
  simp only [maskCore]
  induction zs generalizing bs with
  | nil => rfl
  | cons z zs ih =>
    cases bs with
    | nil => rfl
    | cons b bs =>
      simp only [List.zip_cons_cons, List.map_cons]
      rw [ih bs]
      congr 1
      cases b
      · simp [isZero]
      · by_cases hz : z = 0
        · subst hz; simp [isZero, floatQ]
        · have : isZero (floatQ z) = false := by simp [isZero, floatQ]; omega
          simp [this]

theorem extra_idem (tab : List (Str × Str)) (hn : (tab.map (·.1)).Nodup) (extra : List (Str × Str)) :
    tab.filterMap (fun p => (lookupK (tab.filterMap fun p => (lookupK extra p.1).map fun r => (p.1, r)) p.1).map fun r => (p.1, r))
      = tab.filterMap fun p => (lookupK extra p.1).map fun r => (p.1, r) := by
  apply filterMap_congr_mem
  intro p hp
  rw [lookupK_filterMap tab (fun p => (lookupK extra p.1).map fun r => (p.1, r)) (·.1) (fun _ _ => fst_of_map_pair) p.1 hn]
  rw [find_self tab (·.1) hn p hp]
  cases hl : lookupK extra p.1 <;> simp [hl]

theorem filter_idem {α} (p : α → Bool) (o : Option α) : (o.filter p).filter p = o.filter p := by
  cases o with
  | none => rfl
  | some a => by_cases h : p a = true <;> simp [Option.filter, h]

/-- C15 for the molecule core: a second cycle returns the same object except for the provenance trail, which is one
entry longer again -/
theorem norm_norm (tab : List (Str × Str)) (hn : (tab.map (·.1)).Nodup) (m : Mol) :
    (norm tab (norm tab m).mol).dropProv = (norm tab m).dropProv ∧
    (norm tab (norm tab m).mol).prov = provGrow (norm tab m).prov ∧ provLen (norm tab m).prov = provLen m.prov + 1 := by
  refine ⟨?_, rfl, provLen_grow m.prov⟩
  simp only [norm, Loaded.mol, Loaded.dropProv, Option.getD_some, Option.map_some, pred_succ, maskCore_idem, filter_idem,
    extra_idem tab hn]

theorem dom_norm (T : Tables) (K : Keys) (known : List Str) (b : Bool) (hK : KeysOK K K known) (m : Mol) (h : Dom T K known b m) :
    Dom T K known b (norm K.pass m).mol := by
  obtain ⟨h0, h1, h2, h3, h4, h5, h6⟩ := h
  refine ⟨h0, h1, ?_, ?_, ?_, h5, h6⟩
  · simp only [norm, Loaded.mol, maskCore, List.length_map, List.length_zip, h2, Nat.min_self]
  · intro e he
    simp only [norm, Loaded.mol, List.mem_filterMap] at he
    obtain ⟨p, hp, hpe⟩ := he
    rw [fst_of_map_pair hpe]; exact List.mem_map_of_mem (f := (·.1)) hp
  · simp only [norm, Loaded.mol]
    have hsub : (K.pass.filterMap fun p => (lookupK m.extra p.1).map fun r => (p.1, r)).map (·.1) |>.Sublist (K.pass.map (·.1)) := by
      induction K.pass with
      | nil => exact List.Sublist.slnil
      | cons p ps ih =>
        simp only [List.filterMap_cons, List.map_cons]
        cases lookupK m.extra p.1 with
        | none => exact List.Sublist.cons _ ih
        | some r => exact List.Sublist.cons_cons _ ih
    exact List.Nodup.sublist hsub hK.2.2.2

end Iodata.Fmt.Qcs
