/- WFN section layer: sections of every size through the cut loop, records cut by column, the symbol heuristic. -/
import Iodata.Lemmas.Fmt.Fields
import Iodata.Lemmas.Fmt.Fchk
import Iodata.Model.Fmt.WfnS
namespace Iodata.Fmt.WfnS
open Iodata.Chars Iodata.Decimal Iodata.Fmt

/-! ### the cut loop and sections of every size -/

theorem cutF_flatten {α} (step : Nat) (render : α → Str) (tail : Str) (ht : tail.length < step) :
    ∀ (xs : List α) (fuel : Nat), ((xs.map render).flatten ++ tail).length ≤ fuel → (∀ x ∈ xs, (render x).length = step) →
    cutF step fuel ((xs.map render).flatten ++ tail) = xs.map render
  | [], fuel, _, _ => by
    cases fuel with
    | zero => rfl
    | succ f => exact if_neg (Nat.not_le.mpr ht)
  | x :: xs, fuel, hf, hw => by
    have hx := hw x List.mem_cons_self
    rw [List.map_cons, List.flatten_cons, List.append_assoc] at hf ⊢
    rw [List.length_append, hx] at hf
    cases fuel with
    | zero => omega
    | succ f =>
      have hle : step ≤ (render x ++ ((xs.map render).flatten ++ tail)).length := by
        rw [List.length_append, hx]; exact Nat.le_add_right _ _
      rw [cutF, if_pos hle, List.take_left' hx, List.drop_left' hx,
        cutF_flatten step render tail ht xs f (by omega) fun y hy => hw y (List.mem_cons_of_mem _ hy)]

theorem cut_line {α} (step : Nat) (hstep : 2 ≤ step) (render : α → Str) (xs : List α) (hw : ∀ x ∈ xs, (render x).length = step) :
    cut step ((xs.map render).flatten ++ ['\n']) = xs.map render :=
  cutF_flatten step render ['\n'] (by simp; omega) xs _ (Nat.le_refl _) hw

theorem optAll_map {α β} (f : α → Option β) (g : β → α) : ∀ l : List β, (∀ x ∈ l, f (g x) = some x) → optAll f (l.map g) = some l
  | [], _ => rfl
  | x :: l, h => by
    simp only [List.map_cons, optAll, h x List.mem_cons_self, optAll_map f g l fun y hy => h y (List.mem_cons_of_mem _ hy)]

theorem startsWith_append (p a b : Str) (h : startsWith p a = true) : startsWith p (a ++ b) = true := by
  unfold startsWith at h ⊢
  rw [List.isPrefixOf_iff_prefix] at h ⊢
  exact h.trans (List.prefix_append a b)

theorem readSecF_lines {α} (conv : Str → Option α) (start hdr : Str) (skip step : Nat) (render : α → Str) (hstep : 2 ≤ step)
    (hhdr : hdr.length = skip) (hst : startsWith start hdr = true) (rest : List Str) :
    ∀ (cs : List (List α)) (acc : List α) (fuel : Nat), cs.length < fuel → (∀ c ∈ cs, c ≠ []) →
    (∀ c ∈ cs, ∀ x ∈ c, (render x).length = step ∧ conv (replaceD (render x)) = some x) →
    readSecF conv start skip step (acc.length + cs.flatten.length) fuel acc
        (cs.map (fun c => hdr ++ ((c.map render).flatten ++ ['\n'])) ++ rest)
      = .ok (acc ++ cs.flatten, rest) := by
  intro cs
  induction cs with
  | nil =>
    intro acc fuel hf _ _
    cases fuel with
    | zero => simp at hf
    | succ f => simp [readSecF]
  | cons c cs ih =>
    intro acc fuel hf hne hx
    cases fuel with
    | zero => simp at hf
    | succ f =>
      have hcl : 0 < c.length := List.length_pos_iff.mpr (hne c List.mem_cons_self)
      have hlt : acc.length < acc.length + (c :: cs).flatten.length := by simp; omega
      have hopt : optAll (fun w => conv (replaceD w)) (c.map render) = some c :=
        optAll_map _ render c fun x hx' => (hx c List.mem_cons_self x hx').2
      have := ih (acc ++ c) f (by simpa using hf) (fun d hd => hne d (List.mem_cons_of_mem _ hd))
        (fun d hd => hx d (List.mem_cons_of_mem _ hd))
      have e : (acc ++ c).length + cs.flatten.length = acc.length + (c :: cs).flatten.length := by simp; omega
      rw [e] at this
      simp only [List.map_cons, List.cons_append, readSecF, hlt, if_true, startsWith_append _ _ _ hst, Bool.not_true,
        Bool.false_eq_true, if_false, List.drop_left' hhdr,
        cut_line step hstep render c fun x hx' => (hx c List.mem_cons_self x hx').1, hopt, this]
      simp

/-- C02 for one section: `_load_helper_section` on the lines of `_dump_helper_section` returns the items, for every number
of items (ragged last line included) -/
theorem readSecF_secLines {α} (conv : Str → Option α) (start header : Str) (skip step per : Nat) (render : α → Str)
    (hstep : 2 ≤ step) (hper : 0 < per) (hst : startsWith start (ljust skip (header.take skip)) = true)
    (items : List α) (hx : ∀ x ∈ items, (render x).length = step ∧ conv (replaceD (render x)) = some x) (rest : List Str)
    (fuel : Nat) (hf : (secLines header skip per render items).length < fuel) :
    readSecF conv start skip step items.length fuel [] (secLines header skip per render items ++ rest) = .ok (items, rest) := by
  obtain ⟨chs, hflat, hne, e⟩ := Fchk.chunked per hper
    (fun ch => ljust skip (header.take skip) ++ ((ch.map render).flatten ++ ['\n'])) items
  rw [secLines, e] at hf ⊢
  have := readSecF_lines conv start _ skip step render hstep (length_ljust _ _ (List.length_take_le _ _)) hst rest chs [] fuel
    (by simpa using hf) hne fun c hc x hxc => hx x (hflat ▸ List.mem_flatten.mpr ⟨c, hc, hxc⟩)
  simpa [hflat] using this

theorem readSec_secLines {α} (conv : Str → Option α) (start header : Str) (skip step per : Nat) (render : α → Str)
    (hstep : 2 ≤ step) (hper : 0 < per) (hst : startsWith start (ljust skip (header.take skip)) = true)
    (items : List α) (hx : ∀ x ∈ items, (render x).length = step ∧ conv (replaceD (render x)) = some x) (rest : List Str) :
    readSec conv start skip step items.length (secLines header skip per render items ++ rest) = .ok (items, rest) :=
  readSecF_secLines conv start header skip step per render hstep hper hst items hx rest _ (by simp; omega)

theorem readSecF_blank {α} (conv : Str → Option α) (step n : Nat) (hstep : 2 ≤ step) (f : Nat) (acc : List α) (ls : List Str)
    (h : acc.length < n) : readSecF conv [] 0 step n (f + 1) acc (['\n'] :: ls) = readSecF conv [] 0 step n f acc ls := by
  have hc : cut step (List.drop 0 ['\n']) = [] := by
    unfold cut; simp [cutF]; omega
  simp only [readSecF, h, if_true, startsWith, List.isPrefixOf, Bool.not_true, Bool.false_eq_true, if_false, hc, optAll, List.append_nil]

/-! ### numbers in columns -/

theorem length_fmtInt {w : Nat} {i : Int} (h : fitsI w i = true) : (fmtInt w i).length = w := by
  simp only [fitsI, decide_eq_true_eq] at h; exact length_rjust _ _ h

theorem length_fmtFix {w d : Nat} {x : Fx} (h : fitsF w d x = true) : (fmtFix false w d x).length = w :=
  Decimal.length_fmtFix (of_decide_eq_true h)

theorem fitsS_spec {w d : Nat} {x : Sci} (h : fitsS w d x = true) : x.man < 10 ^ (d + 1) := by
  simp only [fitsS, Bool.and_eq_true, decide_eq_true_eq] at h; exact h.2

/-- an integer in its column is as wide as the column and is read back through `replace("D", "E")` -/
theorem int_item {w : Nat} {i : Int} (h : fitsI w i = true) : (fmtInt w i).length = w ∧ pyInt (replaceD (fmtInt w i)) = some i := by
  have h1 : 'D' ∉ signStr false (decide (i < 0)) := by cases decide (i < 0) <;> decide
  have e : replaceD (fmtInt w i) = fmtInt w i := by
    simp only [fmtInt, rjust, intToDec_eq, replaceD_append, replaceD_allWs _ (allWs_spaces _), replaceD_id _ h1,
      replaceD_id _ (allDigits_natToDec _).no_D]
  exact ⟨length_fmtInt h, by rw [e]; exact pyInt_rjust _ _⟩

theorem sci_item {w d : Nat} (hd : 0 < d) {x : Sci} (h : fitsS w d x = true) :
    (fmtSci false true w d x).length = w ∧ pySci d (replaceD (fmtSci false true w d x)) = some x := by
  have h1 : 'D' ∉ signStr false x.neg := by cases x.neg <;> decide
  have h3 : replaceD ('E' :: expStr x.exp) = 'E' :: replaceD (expStr x.exp) := rfl
  have e : replaceD (fmtSci false true w d x) = fmtSci false true w d x := by
    simp only [fmtSci, rjust, sciCore, sciCoreC, if_true, replaceD_append, replaceD_allWs _ (allWs_spaces _), replaceD_id _ h1,
      replaceD_id _ (manDigits_no_D d x.man), h3, replaceD_id _ (expStr_no_D x.exp)]
  simp only [fitsS, Bool.and_eq_true, decide_eq_true_eq] at h
  exact ⟨length_rjust _ _ h.1, by rw [e]; simpa using pySci_fmtSci false true w d x hd h.2 [] allWs_nil⟩

theorem intSec (header : Str) (skip w per : Nat) (hw : 2 ≤ w) (hper : 0 < per)
    (hst : startsWith header (ljust skip (header.take skip)) = true) (items : List Int) (hx : ∀ x ∈ items, fitsI w x = true)
    (rest : List Str) :
    readSec pyInt header skip w items.length (secLines header skip per (fmtInt w) items ++ rest) = .ok (items, rest) :=
  readSec_secLines pyInt header header skip w per (fmtInt w) hw hper hst items (fun x hxm => int_item (hx x hxm)) rest

theorem sciSec (header : Str) (skip w d per : Nat) (hw : 2 ≤ w) (hd : 0 < d) (hper : 0 < per)
    (hst : startsWith header (ljust skip (header.take skip)) = true) (items : List Sci) (hx : ∀ x ∈ items, fitsS w d x = true)
    (rest : List Str) :
    readSec (pySci d) header skip w items.length (secLines header skip per (fmtSci false true w d) items ++ rest) = .ok (items, rest) :=
  readSec_secLines (pySci d) header header skip w per (fmtSci false true w d) hw hper hst items
    (fun x hxm => sci_item hd (hx x hxm)) rest

/-! ### the symbol heuristic -/

theorem titleGo_length : ∀ (u : Str) (b : Bool), (titleGo b u).length = u.length := by
  intro u; induction u with
  | nil => intro b; rfl
  | cons c u ih => intro b; simp [titleGo, ih]

theorem okZ_spec {T : Tables} {L : Layout} {z : Nat} (h : okZ T L z = true) :
    ∃ s, T.sym? z = some s ∧ NoWs s ∧ s ≠ [] ∧ s.length ≤ 2 ∧ s.length < L.symW ∧
      symLookup T (title ((s ++ [' ']).take 2)) = some z := by
  unfold okZ at h
  cases e : T.sym? z with
  | none => simp [e] at h
  | some s =>
    simp only [e, Bool.and_eq_true, decide_eq_true_eq, Bool.not_eq_true', beq_iff_eq] at h
    obtain ⟨⟨⟨⟨h1, h2⟩, h3⟩, h4⟩, h5⟩ := h
    exact ⟨s, rfl, h1, by intro hs; subst hs; simp at h2, h3, h4, h5⟩

theorem num?_mem {T : Tables} {s : Str} {z : Nat} (h : T.num? s = some z) : (z, s) ∈ T.num2sym := by
  unfold Tables.num? lookupV at h
  cases hf : T.num2sym.find? (fun e => e.2 == s) with
  | none => simp [hf] at h
  | some e =>
    simp only [hf, Option.map_some, Option.some.injEq] at h
    have h1 := List.find?_some hf
    rw [← h, ← eq_of_beq h1]; exact List.mem_of_find?_eq_some hf

/-- a table entry whose symbol is a title-cased word of one or two characters is found again by the heuristic: a
two-character symbol directly, a one-character symbol `c` through the second look-up, because `c` followed by a blank is
no symbol of a table whose symbols are blank-free -/
theorem okZ_of_entry {T : Tables} {L : Layout} {z : Nat} {s : Str} (hs : T.sym? z = some s) (hn : T.num? s = some z)
    (ht : title s = s) (hw : NoWs s) (hne : s ≠ []) (hl : s.length ≤ 2) (hL : 2 < L.symW)
    (hT : ∀ e ∈ T.num2sym, NoWs e.2) : okZ T L z = true := by
  have hlook : symLookup T (title ((s ++ [' ']).take 2)) = some z := by
    rcases s with _ | ⟨c, _ | ⟨d, _ | ⟨_, _⟩⟩⟩
    · exact absurd rfl hne
    · have h1 : title [c, ' '] = [c, ' '] := by
        simp only [title, titleGo, List.cons.injEq, and_true] at ht ⊢
        exact ⟨ht, if_neg (by decide)⟩
      have h2 : T.num? [c, ' '] = none := by
        cases h : T.num? [c, ' '] with
        | none => rfl
        | some z' => exact absurd (hT _ (num?_mem h) ' ' (by simp)) (by decide)
      simp only [List.cons_append, List.nil_append, List.take_succ_cons, List.take_zero, h1, symLookup, h2, hn]
    · simp only [List.cons_append, List.nil_append, List.take_succ_cons, List.take_zero, ht, symLookup, hn]
    · simp at hl
  cases s with
  | nil => exact absurd rfl hne
  | cons c s =>
    simp only [okZ, hs, hlook, Bool.and_eq_true, decide_eq_true_eq, beq_self_eq_true, and_true]
    exact ⟨⟨⟨hw, rfl⟩, hl⟩, by omega⟩

/-- the first eight columns of an atom line give the element back, for every atom index: the field strips to the symbol,
at least one blank, and the index; the first two characters of its title-cased form are those of the padded symbol -/
theorem readSym_field (T : Tables) (L : Layout) (z : Nat) (k : Int) (hz : okZ T L z = true) :
    readSym T (lAtm0 ++ (ljust L.symW (T.sym z) ++ fmtInt L.idxW k)) = some z := by
  obtain ⟨s, hs, hnw, hne, hl2, hlw, hlook⟩ := okZ_spec hz
  obtain ⟨n, hn⟩ : ∃ n, L.symW - s.length = n + 1 := ⟨L.symW - s.length - 1, by omega⟩
  obtain ⟨c, s', rfl⟩ := List.exists_cons_of_ne_nil hne
  have e : lAtm0 ++ (ljust L.symW (c :: s') ++ fmtInt L.idxW k)
      = lAtm0 ++ c :: ((s' ++ ' ' :: (spaces n ++ spaces (L.idxW - (intToDec k).length))) ++ intToDec k) := by
    simp only [ljust, fmtInt, rjust, hn, spaces, List.replicate_succ, List.cons_append, List.append_assoc]
  rw [readSym, show T.sym z = c :: s' by simp [Tables.sym, hs], e, strip_vis lAtm0 (by decide) (hnw c List.mem_cons_self),
    rstrip_append_noWs _ _ (intToDec_noWs k) (intToDec_ne_nil k)]
  rcases s' with _ | ⟨d, _ | _⟩
  · simpa [title, titleGo] using hlook
  · simpa [title, titleGo] using hlook
  · simp at hl2

/-! ### records cut by column -/

theorem numLine_read (L : Layout) (hL : LayoutOK L) (a b c : Nat)
    (ha : fitsI L.moW a = true) (hb : fitsI L.primW b = true) (hc : fitsI L.natW c = true) :
    startsWith startG (numLine L a b c) = true ∧ pyInt (sl L.sMo (numLine L a b c)) = some (a : Int) ∧
    pyInt (sl L.sPrim (numLine L a b c)) = some (b : Int) ∧ pyInt (sl L.sNat (numLine L a b c)) = some (c : Int) := by
  obtain ⟨h1, h2, h3, -⟩ := hL
  have cut := slices_fields [lGauss, fmtInt L.moW a, lMol, fmtInt L.primW b, lPrim, fmtInt L.natW c, lNuc, ['\n']]
    (line := numLine L a b c) (by simp [numLine])
    [lGauss.length, L.moW, lMol.length, L.primW, lPrim.length, L.natW, lNuc.length, 1] (by simp [length_fmtInt, *])
    [L.sMo, L.sPrim, L.sNat] [1, 3, 5] (by simp [h1, h2, h3, Nat.add_assoc])
  simp only [List.map_cons, List.map_nil, List.cons.injEq, and_true, List.getD_cons_succ, List.getD_cons_zero] at cut
  obtain ⟨s1, s2, s3⟩ := cut
  simp only [sl, s1, s2, s3, fmtInt, pyInt_rjust, and_self, and_true]
  exact startsWith_append _ _ _ (by decide)

theorem okAtom_spec {T : Tables} {L : Layout} {a : Atom} (h : okAtom T L a = true) :
    okZ T L a.zn = true ∧ fitsF L.cW L.cD a.x = true ∧ fitsF L.cW L.cD a.y = true ∧ fitsF L.cW L.cD a.z = true ∧
    fitsF L.chW L.chD ⟨false, a.zn * 10 ^ L.chD⟩ = true := by
  simp only [okAtom, Bool.and_eq_true] at h
  exact ⟨h.1.1.1.1, h.1.1.1.2, h.1.1.2, h.1.2, h.2⟩

theorem readAtom_atomLine (T : Tables) (L : Layout) (hL : LayoutOK L) (i : Nat) (a : Atom) (ha : okAtom T L a = true)
    (hi : i + 1 < 10 ^ L.idxW) : readAtom T L (atomLine T L i a) = .ok a := by
  obtain ⟨hz, hx, hy, hzz, hch⟩ := okAtom_spec ha
  obtain ⟨s, hs, -, -, -, hlw, -⟩ := okZ_spec hz
  obtain ⟨-, -, -, h4, h5, h6, h7, -, -, -, -, -, -, -, -, -, -, -, -, -, -, -, hidx, -⟩ := hL
  have lS : (ljust L.symW (T.sym a.zn)).length = L.symW := length_ljust _ _ (by simp [Tables.sym, hs]; omega)
  have lI : (fmtInt L.idxW ((i + 1 : Nat) : Int)).length = L.idxW := length_rjust _ _ (length_natToDec_le _ _ hi hidx)
  have cut := slices_fields [lAtm0 ++ (ljust L.symW (T.sym a.zn) ++ fmtInt L.idxW ((i + 1 : Nat) : Int)), lAtm1,
      fmtInt L.idxW ((i + 1 : Nat) : Int), lAtm2, fmtFix false L.cW L.cD a.x, fmtFix false L.cW L.cD a.y,
      fmtFix false L.cW L.cD a.z, lAtm3, fmtFix false L.chW L.chD ⟨false, a.zn * 10 ^ L.chD⟩, ['\n']]
    (line := atomLine T L i a) (by simp [atomLine])
    [lAtm0.length + (L.symW + L.idxW), lAtm1.length, L.idxW, lAtm2.length, L.cW, L.cW, L.cW, lAtm3.length, L.chW, 1]
    (by simp only [List.map_cons, List.map_nil, List.length_append, lS, lI, length_fmtFix hx, length_fmtFix hy, length_fmtFix hzz,
      length_fmtFix hch, List.length_cons, List.length_nil])
    [(0, L.sSym), L.sX, L.sY, L.sZ] [0, 4, 5, 6] (by simp [h4, h5, h6, h7, Nat.add_assoc])
  simp only [List.map_cons, List.map_nil, List.cons.injEq, and_true, List.getD_cons_succ, List.getD_cons_zero] at cut
  obtain ⟨s0, sx, sy, sz⟩ := cut
  simp only [readAtom, sl, s0, sx, sy, sz, readSym_field T L a.zn _ hz, pyFix_fmt]

theorem okMO_spec {L : Layout} {n : Nat} {m : MO} (h : okMO L n m = true) :
    fitsF L.occW L.occD m.occ = true ∧ fitsF L.enW L.enD m.energy = true ∧ m.coeffs.length = n ∧
    ∀ c ∈ m.coeffs, fitsS L.coefW L.coefD c = true := by
  simp only [okMO, Bool.and_eq_true, decide_eq_true_eq, List.all_eq_true] at h
  exact ⟨h.1.1.1, h.1.1.2, h.1.2, h.2⟩

theorem readMO_moLines (L : Layout) (hL : LayoutOK L) (i nprim : Nat) (m : MO) (hm : okMO L nprim m = true)
    (hi : i + 1 < 10 ^ L.mnW) (rest : List Str) :
    readMO L nprim (moLines L i m ++ rest) = .ok (⟨((i + 1 : Nat) : Int), m.occ, m.energy, m.coeffs⟩, rest) := by
  obtain ⟨ho, he, hlen, hc⟩ := okMO_spec hm
  obtain ⟨-, -, -, -, -, -, -, h8, h9, h10, -, -, -, -, hcw, -, -, -, hcp, -, -, hcd, -, hmn, -, -, -, hz0, -⟩ := hL
  have lN : (fmtInt L.mnW ((i + 1 : Nat) : Int)).length = L.mnW := length_rjust _ _ (length_natToDec_le _ _ hi hmn)
  have lZ : (fmtFix false L.zW L.zD ⟨false, 0⟩).length = L.zW := length_rjust _ _ hz0
  have cut := slices_fields [lMO, fmtInt L.mnW ((i + 1 : Nat) : Int), lMO1, fmtFix false L.zW L.zD ⟨false, 0⟩, lMO2,
      fmtFix false L.occW L.occD m.occ, lMO3, fmtFix false L.enW L.enD m.energy, ['\n']]
    (line := moHead L i m) (by simp [moHead])
    [lMO.length, L.mnW, lMO1.length, L.zW, lMO2.length, L.occW, lMO3.length, L.enW, 1]
    (by simp only [List.map_cons, List.map_nil, lN, lZ, length_fmtFix ho, length_fmtFix he, List.length_cons, List.length_nil])
    [L.sNum, L.sOcc, L.sEn] [1, 5, 7] (by simp [h8, h9, h10, Nat.add_assoc])
  simp only [List.map_cons, List.map_nil, List.cons.injEq, and_true, List.getD_cons_succ, List.getD_cons_zero] at cut
  obtain ⟨sn, so, se⟩ := cut
  have hsw : startsWith lMO (moHead L i m) = true := startsWith_append _ _ _ (by decide)
  have hsec := sciSec [] 0 L.coefW L.coefD L.coefPer hcw hcd hcp (by rfl) m.coeffs hc rest
  rw [hlen] at hsec
  simp only [moLines, List.cons_append, readMO, hsw, Bool.not_true, Bool.false_eq_true, if_false, sl, sn, so, se, fmtInt,
    pyInt_rjust, pyFix_fmt, hsec]

theorem readMOs_lines (L : Layout) (hL : LayoutOK L) (nprim : Nat) (rest : List Str) :
    ∀ (ps : List (MO × Nat)), (∀ p ∈ ps, okMO L nprim p.1 = true ∧ p.2 + 1 < 10 ^ L.mnW) →
    readMOs L nprim ps.length (ps.flatMap (fun p => moLines L p.2 p.1) ++ rest)
      = .ok (ps.map (fun p => ⟨((p.2 + 1 : Nat) : Int), p.1.occ, p.1.energy, p.1.coeffs⟩), rest)
  | [], _ => rfl
  | p :: ps, h => by
    obtain ⟨h1, h2⟩ := h p List.mem_cons_self
    simp only [List.flatMap_cons, List.append_assoc, List.length_cons, readMOs, readMO_moLines L hL p.2 nprim p.1 h1 h2,
      readMOs_lines L hL nprim rest ps fun q hq => h q (List.mem_cons_of_mem _ hq), List.map_cons]

/-! ### the energy line and the scans -/

theorem hasSub_append (k a b : Str) (h : hasSub k a = true) : hasSub k (a ++ b) = true := by
  induction a with
  | nil =>
    have hk : k = [] := by simpa [hasSub] using h
    subst hk
    cases b <;> simp [hasSub]
  | cons c a ih =>
    simp only [hasSub, List.cons_append, Bool.or_eq_true] at h ⊢
    exact h.imp (startsWith_append k (c :: a) b) ih

/-- the text of a float that may be NaN, without its padding -/
def tokN (d : Nat) : Option Fx → Str
  | none => kNan
  | some v => fixCore false d v

theorem fmtFixN_eq (w d : Nat) (x : Option Fx) : fmtFixN w d x = spaces (w - (tokN d x).length) ++ tokN d x := by
  cases x <;> rfl

theorem tokN_noWs (d : Nat) (x : Option Fx) : NoWs (tokN d x) := by
  cases x with
  | none => show NoWs kNan; decide
  | some v => exact fixCore_noWs d v

theorem tokN_ne_nil (d : Nat) (x : Option Fx) : tokN d x ≠ [] := by
  cases x with
  | none => exact List.cons_ne_nil _ _
  | some v => exact fixCore_ne_nil false d v

/-- `float` reads the padded text back: `nan` as NaN, and a number (which starts with a sign or a digit, not with `n`) as
itself -/
theorem pyFixN_tokN (d : Nat) (x : Option Fx) (p q : Str) (hp : AllWs p) (hq : AllWs q) :
    pyFixN d (p ++ (tokN d x ++ q)) = some x := by
  unfold pyFixN
  rw [strip_noWs_pad p _ q hp hq (tokN_noWs d x)]
  cases x with
  | none => rfl
  | some v =>
    obtain ⟨c, r, h, hc⟩ := signed_head v.neg (fixDigits_head d v.mag)
    have hne : (fixCore false d v == kNan) = false := by
      have : c ≠ 'n' := (by decide : ∀ c ∈ '-' :: digitChars, c ≠ 'n') c hc
      simp [fixCore, h, kNan, this]
    simp only [tokN, hne, Bool.false_eq_true, if_false, pyFix_fixCore false d v p q hp hq, Option.map_some]

theorem length_fmtFixN {w d : Nat} (hn : kNan.length ≤ w) {x : Option Fx} (h : fitsFN w d x = true) : (fmtFixN w d x).length = w := by
  cases x with
  | none => exact length_rjust _ _ hn
  | some v => exact length_fmtFix h

theorem energyLine_read (L : Layout) (hL : LayoutOK L) (e v : Option Fx) (he : fitsFN L.teW L.teD e = true) (hv : fitsFN L.vrW L.vrD v = true) :
    hasSub kEnergy (energyLine L e v) = true ∧
    (splitWs (sl L.sTe (energyLine L e v))).head?.bind (pyFixN L.teD) = some e ∧ pyFixN L.vrD (sl L.sVr (energyLine L e v)) = some v := by
  obtain ⟨-, -, -, -, -, -, -, -, -, -, h11, h12, -, -, -, -, -, -, -, -, -, -, -, -, -, -, -, -, hn1, hn2, -⟩ := hL
  have cut := slices_fields [lTe0, fmtFixN L.teW L.teD e, lTe1, fmtFixN L.vrW L.vrD v, ['\n']]
    (line := energyLine L e v) (by simp [energyLine])
    [lTe0.length, L.teW, lTe1.length, L.vrW, 1] (by simp [length_fmtFixN, *]) [L.sTe, L.sVr] [1, 3] (by simp [h11, h12, Nat.add_assoc])
  simp only [List.map_cons, List.map_nil, List.cons.injEq, and_true, List.getD_cons_succ, List.getD_cons_zero] at cut
  obtain ⟨se, sv⟩ := cut
  refine ⟨hasSub_append _ _ _ (by decide), ?_, ?_⟩
  · have hw : splitWs (spaces (L.teW - (tokN L.teD e).length) ++ tokN L.teD e) = [tokN L.teD e] := by
      simpa [splitWs_allWs [] allWs_nil] using
        splitWs_field _ _ [] (allWs_spaces (L.teW - (tokN L.teD e).length)) (tokN_noWs L.teD e) (tokN_ne_nil L.teD e) brk_nil
    rw [sl, se, fmtFixN_eq, hw]
    simpa using pyFixN_tokN L.teD e [] [] allWs_nil allWs_nil
  · rw [sl, sv, fmtFixN_eq]
    simpa using pyFixN_tokN L.vrD v _ [] (allWs_spaces _) allWs_nil

/-! ### C02 -/

theorem okPrim_spec {L : Layout} {p : Nat × Nat × Sci} (h : okPrim L p = true) :
    fitsI L.intW ((p.1 + 1 : Nat) : Int) = true ∧ fitsI L.intW ((p.2.1 + 1 : Nat) : Int) = true ∧ fitsS L.expW L.expD p.2.2 = true := by
  simp only [okPrim, Bool.and_eq_true] at h; exact ⟨h.1.1, h.1.2, h.2⟩

/-- the `$MOSPIN` section behind its two blank lines -/
theorem spin_read (w per : Nat) (hw : 2 ≤ w) (hper : 0 < per) (l : List Int) (hne : l ≠ []) (hx : ∀ x ∈ l, fitsI w x = true) :
    readSec pyInt [] 0 w l.length ([['\n'], ['\n']] ++ secLines [] 0 per (fmtInt w) l) = .ok (l, []) := by
  have hpos : ([] : List Int).length < l.length := List.length_pos_iff.mpr hne
  unfold readSec
  simp only [List.cons_append, List.nil_append, List.length_cons]
  rw [readSecF_blank pyInt w l.length hw _ [] _ hpos, readSecF_blank pyInt w l.length hw _ [] _ hpos]
  simpa using readSecF_secLines pyInt [] [] 0 w per (fmtInt w) hw hper (by rfl) l (fun x hxm => int_item (hx x hxm)) [] _
    (Nat.lt_succ_self _)

theorem okSpin_spec {L : Layout} {n : Nat} {l : List Int} (h : okSpin L n (some l) = true) :
    l ≠ [] ∧ l.length = n ∧ ∀ x ∈ l, fitsI L.spinW x = true := by
  simp only [okSpin, Bool.and_eq_true, Bool.not_eq_true', decide_eq_true_eq, List.all_eq_true] at h
  exact ⟨by intro e; subst e; simp at h, h.1.2, h.2⟩

theorem okTitle_spec {t : Str} (h : okTitle t = true) : Trimmed t := (trimmed_one_line h).1

theorem LayoutOK.title {L : Layout} (hL : LayoutOK L) : okTitle L.defaultTitle = true ∧ L.defaultTitle ≠ [] := by
  obtain ⟨-, -, -, -, -, -, -, -, -, -, -, -, -, -, -, -, -, -, -, -, -, -, -, -, -, -, -, -, -, -, h⟩ := hL
  exact h

theorem okTitle_outTitle (L : Layout) (hL : LayoutOK L) (t : Str) (h : okTitle t = true) : okTitle (outTitle L t) = true :=
  orDefault_ok (P := fun t => okTitle t = true) hL.title.1 h

theorem map_pred {α} (f : α → Nat) (l : List α) :
    (l.map fun x => ((f x + 1 : Nat) : Int)).map (· - 1) = l.map fun x => ((f x : Nat) : Int) := by
  simp only [List.map_map, Function.comp_def]
  exact List.map_congr_left fun n _ => by simp

theorem mem_zipIdx_lt {α} {l : List α} {p : α × Nat} (hp : p ∈ l.zipIdx) : p.1 ∈ l ∧ p.2 < l.length := by
  obtain ⟨-, h2, h3⟩ := List.mem_zipIdx hp
  simp only [Nat.zero_add, Nat.sub_zero] at h2 h3
  exact ⟨h3 ▸ List.getElem_mem _, h2⟩

/-- C02 for WFN files at the section level: every number of atoms (below 1000), primitives and orbitals, ragged last
lines of every section, `nan` energies, with or without the `$MOSPIN` section -/
theorem load_dump (T : Tables) (L : Layout) (hL : LayoutOK L) (o : Obj) (h : Dom T L o) : load T L (dump T L o) = .ok (norm L o) := by
  obtain ⟨ht, hmo, hpr, hna, hia, him, hat, hprims, hmos, hen, hvr, hsp⟩ := h
  obtain ⟨hG, p1, p2, p3⟩ := numLine_read L hL o.mos.length o.prims.length o.atoms.length hmo hpr hna
  have htitle : strip (' ' :: (outTitle L o.title ++ ['\n'])) = outTitle L o.title := by
    simpa using strip_pad [' '] (outTitle L o.title) ['\n'] (by decide) allWs_nl (okTitle_spec (okTitle_outTitle L hL _ ht))
  have hatoms := fun rest => readN_map (readAtom T L) (fun p : Atom × Nat => atomLine T L p.2 p.1) (·.1) o.atoms.zipIdx rest
    fun p hp => readAtom_atomLine T L hL p.2 p.1 (hat _ (mem_zipIdx_lt hp).1) (by have := (mem_zipIdx_lt hp).2; omega)
  simp only [List.length_zipIdx, List.zipIdx_map_fst] at hatoms
  have hM := fun rest => readMOs_lines L hL o.prims.length rest o.mos.zipIdx
    fun p hp => ⟨hmos _ (mem_zipIdx_lt hp).1, by have := (mem_zipIdx_lt hp).2; omega⟩
  simp only [List.length_zipIdx] at hM
  obtain ⟨q1, q2, q3⟩ := energyLine_read L hL o.energy o.virial hen hvr
  obtain ⟨-, -, -, -, -, -, -, -, -, -, -, -, hiw, hew, -, hsw, hip, hep, -, hspp, hed, -, -, -, hcen, htyp, hexp, -⟩ := hL
  have hC := fun rest => intSec hCentre L.intSkip L.intW L.intPer hiw hip hcen (o.prims.map fun p => ((p.1 + 1 : Nat) : Int)) (by
    intro x hx; obtain ⟨p, hp, rfl⟩ := List.mem_map.mp hx; exact (okPrim_spec (hprims p hp)).1) rest
  have hT := fun rest => intSec hType L.intSkip L.intW L.intPer hiw hip htyp (o.prims.map fun p => ((p.2.1 + 1 : Nat) : Int)) (by
    intro x hx; obtain ⟨p, hp, rfl⟩ := List.mem_map.mp hx; exact (okPrim_spec (hprims p hp)).2.1) rest
  have hE := fun rest => sciSec hExp L.expSkip L.expW L.expD L.expPer hew hed hep hexp (o.prims.map (·.2.2)) (by
    intro x hx; obtain ⟨p, hp, rfl⟩ := List.mem_map.mp hx; exact (okPrim_spec (hprims p hp)).2.2) rest
  simp only [List.length_map] at hC hT hE
  have hfind : ∀ tail, findLine kEnergy ((lEnd ++ ['\n']) :: energyLine L o.energy o.virial :: tail)
      = some (energyLine L o.energy o.virial, tail) := by
    intro tail
    have : hasSub kEnergy (lEnd ++ ['\n']) = false := by decide
    simp [findLine, this, q1]
  have hneg : (decide ((o.mos.length : Int) < 0) || decide ((o.prims.length : Int) < 0) || decide ((o.atoms.length : Int) < 0)) = false := by
    simp
  unfold dump load
  simp only [List.cons_append, List.nil_append, hG, Bool.not_true, Bool.false_eq_true, if_false, p1, p2, p3, hneg, Int.toNat_natCast,
    hatoms, hC, hT, hE, hM, hfind, q2, q3]
  cases hs : o.mospin with
  | none =>
    simp only [spinLines, findLine, norm, htitle, hs, Option.getD_none,
      map_pred (fun p : Nat × Nat × Sci => p.1), map_pred (fun p : Nat × Nat × Sci => p.2.1)]
  | some l =>
    rw [hs] at hsp
    obtain ⟨hne, hlen, hfit⟩ := okSpin_spec hsp
    have hk : hasSub kSpin (lSpin ++ ['\n']) = true := by decide
    have hr := spin_read L.spinW L.spinPer hsw hspp l hne hfit
    rw [hlen] at hr
    simp only [spinLines, List.cons_append, List.nil_append, findLine, hk, if_true] at hr ⊢
    simp only [hr, norm, htitle, hs, Option.getD_some,
      map_pred (fun p : Nat × Nat × Sci => p.1), map_pred (fun p : Nat × Nat × Sci => p.2.1)]

/-! ### C15 -/

theorem zip3_map (l : List (Nat × Nat × Sci)) :
    zip3 (l.map fun p => ((p.1 : Nat) : Int)) (l.map fun p => ((p.2.1 : Nat) : Int)) (l.map (·.2.2)) = l := by
  induction l with
  | nil => rfl
  | cons p l ih => simp [zip3, ih]

theorem mos_back (l : List MO) :
    (l.zipIdx.map fun p => (⟨((p.2 + 1 : Nat) : Int), p.1.occ, p.1.energy, p.1.coeffs⟩ : LMO)).map (fun m => (⟨m.occ, m.energy, m.coeffs⟩ : MO)) = l := by
  simp only [List.map_map, Function.comp_def]
  exact List.zipIdx_map_fst 0 l

/-- the reloaded arrays as an object: the object itself with the default title filled in (and an empty spin list dropped) -/
theorem obj_norm (L : Layout) (o : Obj) :
    (norm L o).obj = { o with title := outTitle L o.title, mospin := if (o.mospin.getD []).isEmpty then none else some (o.mospin.getD []) } := by
  simp only [norm, Loaded.obj, zip3_map, mos_back]
  rfl

theorem norm_idem (L : Layout) (hL : LayoutOK L) (o : Obj) : norm L (norm L o).obj = norm L o := by
  have ht : ∀ t, outTitle L (outTitle L t) = outTitle L t := orDefault_idem hL.title.2
  rw [obj_norm]
  simp only [norm, ht]
  congr 1
  cases o.mospin with
  | none => rfl
  | some l => cases l <;> rfl

theorem dom_norm (T : Tables) (L : Layout) (hL : LayoutOK L) (o : Obj) (h : Dom T L o) : Dom T L (norm L o).obj := by
  rw [obj_norm]
  obtain ⟨ht, hmo, hpr, hna, hia, him, hat, hprims, hmos, hen, hvr, hsp⟩ := h
  refine ⟨okTitle_outTitle L hL _ ht, hmo, hpr, hna, hia, him, hat, hprims, hmos, hen, hvr, ?_⟩
  simp only
  cases hs : o.mospin with
  | none => rfl
  | some l =>
    rw [hs] at hsp
    obtain ⟨hne, _, _⟩ := okSpin_spec hsp
    cases l with
    | nil => exact absurd rfl hne
    | cons a l => simpa using hsp

end Iodata.Fmt.WfnS
