/- XYZ: reading back what `dump` writes, line by line. -/
import Iodata.Lemmas.Fmt.Fields
import Iodata.Model.Fmt.Xyz
namespace Iodata.Fmt.Xyz
open Iodata.Chars Iodata.Decimal Iodata.Fmt

theorem flip_flip (b : Bool) (x : Fx) : flip b (flip b x) = x := by
  cases b <;> simp [flip]

def valPads : List Col → List Fx → List Padded
  | c :: cs, v :: vs => fixP false c.w c.d (flip c.negate v) :: valPads cs vs
  | _, _ => []

theorem valPads_render (cs : List Col) (vs : List Fx) : (valPads cs vs).map Padded.render = valWords cs vs := by
  fun_induction valPads cs vs <;> simp [valWords, render_fixP, *]

theorem valPads_ok (cs : List Col) (vs : List Fx) : ∀ x ∈ valPads cs vs, x.OK := by
  fun_induction valPads cs vs with
  | case1 c cs v vs ih => exact List.forall_mem_cons.mpr ⟨fixP_ok _ _ _ _, ih⟩
  | case2 => simp

theorem loadVals_pads : ∀ (cs : List Col) (vs : List Fx) (extra : List Str), vs.length = cs.length →
    loadVals cs ((valPads cs vs).map (·.tok) ++ extra) = .ok vs
  | [], [], _, _ => rfl
  | [], _ :: _, _, h | _ :: _, [], _, h => by simp at h
  | c :: cs, v :: vs, extra, h => by
    simp only [valPads, List.map_cons, List.cons_append, loadVals, fixP, pyFix_fixCore_self, flip_flip,
      loadVals_pads cs vs extra (by simpa using h)]

theorem okZ_spec {T : Tables} {z : Nat} (h : okZ T z = true) :
    ∃ s, T.sym? z = some s ∧ NoWs s ∧ s ≠ [] ∧ isDigitStr s = false ∧ T.num? (title s) = some z := by
  unfold okZ at h
  cases e : T.sym? z with
  | none => simp [e] at h
  | some s =>
    simp only [e, Bool.and_eq_true, decide_eq_true_eq, Bool.not_eq_true', beq_iff_eq] at h
    refine ⟨s, rfl, h.1.1.1, ?_, h.1.2, h.2⟩
    intro hs; subst hs; simp at h

theorem loadAtom_dumpAtom (T : Tables) (L : Layout) (a : Atom)
    (hz : okZ T a.z = true) (hl : a.vals.length = L.cols.length) :
    loadAtom T L (dumpAtom T L a) = .ok a := by
  obtain ⟨s, hs, hnw, hne, hnd, hback⟩ := okZ_spec hz
  have hsym : T.sym a.z = s := by simp [Tables.sym, hs]
  have hrender : dumpAtom T L a = joinSp ((ljustP L.symW s :: valPads L.cols a.vals).map Padded.render) ++ ['\n'] := by
    simp [dumpAtom, ln, hsym, render_ljustP, valPads_render]
  rw [loadAtom, hrender, splitWs_joinSp_padded _ _ (List.forall_mem_cons.mpr ⟨ljustP_ok _ hnw hne, valPads_ok _ _⟩) (brk_nl []),
    splitWs_allWs _ allWs_nl]
  simp only [ljustP, List.map_cons, List.cons_append, loadZ, hnd, Bool.false_eq_true, if_false, hback, optE]
  rw [loadVals_pads L.cols a.vals [] hl]

theorem okTitle_spec {t : Str} (h : okTitle t = true) : Trimmed t ∧ '\n' ∉ t := trimmed_one_line h

theorem pyInt_ln_natToDec (n : Nat) : pyInt (ln (natToDec n)) = some (Int.ofNat n) := by
  have := pyInt_intToDec [] ['\n'] (Int.ofNat n) allWs_nil allWs_nl
  simpa [ln, intToDec] using this

theorem okTitle_outTitle (L : Layout) (hL : LayoutOK L) (t : Str) (h : okTitle t = true) :
    okTitle (outTitle L t) = true :=
  orDefault_ok (P := fun t => okTitle t = true) hL.1 h

theorem load_dump (T : Tables) (L : Layout) (hL : LayoutOK L) (o : Obj) (h : Dom T L o) :
    load T L (dump T L o) = .ok (norm L o) := by
  have ht := okTitle_spec (okTitle_outTitle L hL o.title h.1)
  have hatoms := readN_map (loadAtom T L) (dumpAtom T L) id o.atoms []
    (fun a ha => by simpa using loadAtom_dumpAtom T L a (h.2 a ha).1 (h.2 a ha).2)
  simp only [List.append_nil, List.map_id] at hatoms
  simp only [dump, load, pyInt_ln_natToDec, hatoms, strip_ln ht.1, norm]

theorem outTitle_idem (L : Layout) (hL : LayoutOK L) (t : Str) : outTitle L (outTitle L t) = outTitle L t :=
  orDefault_idem hL.2 t

theorem norm_idem (L : Layout) (hL : LayoutOK L) (o : Obj) : norm L (norm L o) = norm L o := by
  simp [norm, outTitle_idem L hL]

theorem dom_norm (T : Tables) (L : Layout) (hL : LayoutOK L) (o : Obj) (h : Dom T L o) : Dom T L (norm L o) :=
  ⟨okTitle_outTitle L hL o.title h.1, h.2⟩

def specPads : List Col → List (Str × Fx) → List Padded
  | c :: cs, (p, v) :: vs => ⟨p, fixCore false c.d v, []⟩ :: specPads cs vs
  | _, _ => []

theorem specPads_render (cs : List Col) (vs : List (Str × Fx)) :
    ((specPads cs vs).map Padded.render).flatten = specVals cs vs := by
  fun_induction specPads cs vs <;> simp [specVals, Padded.render, *]

theorem specPads_ok (cs : List Col) (vs : List (Str × Fx)) (h : ∀ pv ∈ vs, AllWs pv.1 ∧ pv.1 ≠ []) :
    ∀ x ∈ specPads cs vs, x.OK ∧ x.pre ≠ [] := by
  fun_induction specPads cs vs with
  | case1 c cs p v vs ih =>
    obtain ⟨hp, hvs⟩ := List.forall_mem_cons.mp h
    exact List.forall_mem_cons.mpr ⟨⟨⟨hp.1, fixCore_noWs _ _, fixCore_ne_nil _ _ _, allWs_nil⟩, hp.2⟩, ih hvs⟩
  | case2 => simp

theorem loadVals_specPads : ∀ (cs : List Col) (vs : List (Str × Fx)) (extra : List Str), vs.length = cs.length →
    (∀ c ∈ cs, c.negate = false) → loadVals cs ((specPads cs vs).map (·.tok) ++ extra) = .ok (vs.map (·.2))
  | [], [], _, _, _ => rfl
  | [], _ :: _, _, h, _ | _ :: _, [], _, h, _ => by simp at h
  | c :: cs, (p, v) :: vs, extra, h, hn => by
    have ih := loadVals_specPads cs vs extra (by simpa using h) fun y hy => hn y (List.mem_cons_of_mem _ hy)
    simp only [specPads, List.map_cons, List.cons_append, loadVals, pyFix_fixCore_self, hn c List.mem_cons_self, flip, ih]
    rfl

theorem loadAtom_specAtom (T : Tables) (L : Layout) (a : SpecAtom) (h : SpecAtomOK T L a) :
    loadAtom T L (specAtom T L a) = .ok ⟨a.z, a.vals.map (·.2)⟩ := by
  obtain ⟨hel, hlead, htrail, hlen, hneg, hvals⟩ := h
  unfold okEl at hel
  simp only [Bool.and_eq_true, decide_eq_true_eq, Bool.not_eq_true'] at hel
  obtain ⟨⟨hnw, hne⟩, hload⟩ := hel
  have hne' : elTok T a.z a.variant ≠ [] := by intro e; rw [e] at hne; simp at hne
  have hz : loadZ T (elTok T a.z a.variant) = .ok a.z := by
    cases e : loadZ T (elTok T a.z a.variant) with
    | error _ => rw [e] at hload; simp at hload
    | ok z' => rw [e] at hload; simp at hload; rw [hload]
  have hpo := specPads_ok L.cols a.vals hvals
  have htail : AllWs (a.trail ++ ['\n']) := allWs_append htrail allWs_nl
  have hrender : specAtom T L a = ((⟨a.lead, elTok T a.z a.variant, []⟩ :: specPads L.cols a.vals).map
      Padded.render).flatten ++ (a.trail ++ ['\n']) := by
    simp [specAtom, Padded.render, specPads_render]
  rw [loadAtom, hrender, splitWs_fields _ _ (List.forall_mem_cons.mpr ⟨⟨hlead, hnw, hne', allWs_nil⟩, fun x hx => (hpo x hx).1⟩)
    (fun x hx => (hpo x hx).2) (brk_of_allWs htail), splitWs_allWs _ htail]
  simp only [List.map_cons, List.cons_append, hz]
  rw [loadVals_specPads L.cols a.vals [] hlen hneg]

theorem load_spec (T : Tables) (L : Layout) (m : SpecObj) (h : SpecOK T L m) :
    load T L (specRender T L m) = .ok m.obj := by
  obtain ⟨h1, h2, h3, h4, h5, hat⟩ := h
  have hatoms := readN_map (loadAtom T L) (specAtom T L) (fun a => (⟨a.z, a.vals.map (·.2)⟩ : Atom)) m.atoms []
    (fun a ha => loadAtom_specAtom T L a (hat a ha))
  simp only [List.append_nil] at hatoms
  have hn : pyInt (m.natomLead ++ (natToDec m.atoms.length ++ (m.natomTrail ++ ['\n']))) = some (Int.ofNat m.atoms.length) := by
    have := pyInt_intToDec m.natomLead (m.natomTrail ++ ['\n']) (Int.ofNat m.atoms.length) h1 (allWs_append h2 allWs_nl)
    simpa [intToDec] using this
  have ht : strip (m.titleLead ++ (m.title ++ (m.titleTrail ++ ['\n']))) = m.title :=
    strip_pad _ _ _ h3 (allWs_append h4 allWs_nl) h5
  simp only [specRender, load, hn, hatoms, ht, SpecObj.obj]

end Iodata.Fmt.Xyz
