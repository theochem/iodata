/- The periodic table, second layer: a row `Tables.RowOK` is what `tables_elements` says of an entry together with the
lookup by atomic number; `tables_row` has it for every row of the generated table, and the element conditions of XYZ,
SDF, PDB and MOL2 follow from a row. -/
import Iodata.Lemmas.Decimal
import Iodata.Lemmas.Fmt.Elements
namespace Iodata.Fmt
open Iodata.Chars Iodata.Decimal

/-- Both lookups find the row `(z, s)`, and `s` — one or two characters — is a blank-free, non-numeric word that `title()`
restores from any case. -/
def Tables.RowOK (T : Tables) (e : Nat × Str) : Prop :=
  T.sym? e.1 = some e.2 ∧ T.num? e.2 = some e.1 ∧ e.2.length ≤ 2 ∧
  ∀ t ∈ [e.2, upper e.2, lower e.2], NoWs t ∧ t ≠ [] ∧ isDigitStr t = false ∧ title t = e.2

variable {T : Tables} {z : Nat} {s : Str}

theorem Tables.RowOK.sym (h : T.RowOK (z, s)) : T.sym z = s := by simp [Tables.sym, h.1]

theorem Tables.RowOK.self (h : T.RowOK (z, s)) : NoWs s ∧ s ≠ [] ∧ isDigitStr s = false ∧ title s = s :=
  h.2.2.2 _ List.mem_cons_self

theorem Xyz.okZ_of_row (h : T.RowOK (z, s)) : Xyz.okZ T z = true := by
  obtain ⟨h1, h2, h3, h4⟩ := h.self
  simp [Xyz.okZ, h.1, h.2.1, h1, h2, h3, h4]

theorem Sdf.okZ_of_row (h : T.RowOK (z, s)) {L : Sdf.Layout} (hw : 2 ≤ L.symW) : Sdf.okZ T L z = true := by
  obtain ⟨h1, _, _, h4⟩ := h.self
  simp [Sdf.okZ, h.1, h.2.1, h1, h4, Nat.le_trans h.2.2.1 hw]

theorem Pdb.okZ_of_row (h : T.RowOK (z, s)) : Pdb.okZ T z = true := by
  obtain ⟨h1, h2, _, h4⟩ := h.self
  simp [Pdb.okZ, h.1, h.2.1, h.2.2.1, h1, h2, h4]

theorem Mol2.okZ_of_row (h : T.RowOK (z, s)) : Mol2.okZ T z = true := by
  obtain ⟨h1, h2, _, h4⟩ := h.self
  simp [Mol2.okZ, h.1, h.2.1, h.2.2.1, h1, h2, h4, List.take_of_length_le h.2.2.1]

/-- PDB files spell the element in upper case -/
theorem Pdb.num_title_upper_of_row (h : T.RowOK (z, s)) : T.num? (title (upper (T.sym z))) = some z := by
  rw [h.sym, (h.2.2.2 (upper s) (by simp)).2.2.2, h.2.1]

/-- the element as tabulated, in upper case, in lower case, or as its atomic number -/
theorem Xyz.okEl_of_row (h : T.RowOK (z, s)) (v : Nat) : Xyz.okEl T z v = true := by
  have word : ∀ t ∈ [s, upper s, lower s], Xyz.elTok T z v = t → Xyz.okEl T z v = true := by
    intro t ht et
    obtain ⟨h1, h2, h3, h4⟩ := h.2.2.2 t ht
    simp [Xyz.okEl, et, Xyz.loadZ, h1, h2, h3, h4, h.2.1, optE]
  match v with
  | 0 => exact word s (by simp) h.sym
  | 1 => exact word (upper s) (by simp) (by simp [Xyz.elTok, h.sym])
  | 2 => exact word (lower s) (by simp) (by simp [Xyz.elTok, h.sym])
  | _ + 3 =>
    simp [Xyz.okEl, Xyz.elTok, Xyz.loadZ, (allDigits_natToDec z).noWs, natToDec_ne_nil, isDigitStr_natToDec,
      decToNat_natToDec, optE]

open Iodata.Gen.Layouts

theorem tables_row {z : Nat} (hz : z ∈ List.range' 1 118) : ∃ s, tables.RowOK (z, s) := by
  obtain ⟨s, hm, hs⟩ := tables.sym?_of_key z (tables_elements.1 ▸ hz)
  exact ⟨s, hs, tables_elements.2 _ hm⟩

end Iodata.Fmt
