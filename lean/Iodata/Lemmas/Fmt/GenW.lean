/- Facts about the tables of `Gen.LayoutsW` that several property theorems use; a file of its own because it imports the
format files of the W group. -/
import Iodata.Lemmas.Fmt.Elements
import Iodata.Lemmas.Fmt.PoscarW
import Iodata.Lemmas.Fmt.WfnS
import Iodata.Lemmas.Fmt.Qcs
import Iodata.Gen.LayoutsW
namespace Iodata.Fmt
open Iodata.Chars Iodata.Gen.Layouts Iodata.Gen.LayoutsW

theorem okZ_tables {z : Nat} (hz : z ∈ List.range' 1 118) :
    PoscarW.okZ tables z = true ∧ WfnS.okZ tables wfnL z = true ∧ Qcs.okZ tables z = true := by
  obtain ⟨s, hs, hn, ht, hw, hne, hl⟩ := tables_entry hz
  exact ⟨PoscarW.okZ_of_entry hs hn hw hne,
    WfnS.okZ_of_entry hs hn ht hw hne hl (by decide) fun e he => ((tables_elements.2 e he).2.2 _ List.mem_cons_self).1,
    Qcs.okZ_of_entry hs hn ht⟩

end Iodata.Fmt
