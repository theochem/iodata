/- GRO: an atom record in the published columns is cut into its fields (decimal-point rule for the width included). -/
import Iodata.Lemmas.Fmt.Fields
import Iodata.Model.Fmt.Gro
namespace Iodata.Fmt.Gro
open Iodata.Chars Iodata.Decimal Iodata.Fmt

theorem findIdx_append (c : Char) (a r : Str) (h : c ∉ a) : findIdx c (a ++ c :: r) = some a.length := by
  induction a with
  | nil => simp [findIdx]
  | cons x a ih =>
    have hx := head_beq_false h
    simp [findIdx, hx, ih (fun hm => h (List.mem_cons_of_mem _ hm))]

/-- a fixed-point field that fits its column: blanks/sign/integer digits (no point), the point, `d` fraction digits -/
theorem fmtFix_shape {w d : Nat} {x : Fx} (hd : 0 < d) (hfit : (fixCore false d x).length ≤ w) :
    ∃ A B, fmtFix false w d x = A ++ '.' :: B ∧ '.' ∉ A ∧ '.' ∉ B ∧ B.length = d ∧ A.length + 1 + d = w := by
  have hdne : d ≠ 0 := by omega
  refine ⟨spaces (w - (fixCore false d x).length) ++ (signStr false x.neg ++ natToDec (x.mag / 10 ^ d)),
    digitsW d (x.mag % 10 ^ d), by simp [fmtFix, rjust, fixCore, fixDigits, hdne], ?_,
    (allDigits_digitsW _ _).not_mem (by decide), length_digitsW _ _, ?_⟩
  · have := (allDigits_natToDec (x.mag / 10 ^ d)).not_mem (c := '.') (by decide)
    cases x.neg <;> simp [spaces, signStr, this]
  · simp [fixCore, fixDigits, hdne, length_digitsW, spaces] at hfit ⊢; omega

/-- The decimal-point rule: after the columns `pre`, the first two points of `%w.df` fields are `w` columns apart. -/
theorem findFrom_points {w d : Nat} (hd : 0 < d) {x y : Fx} (hx : (fixCore false d x).length ≤ w) (hy : (fixCore false d y).length ≤ w)
    (pre rest : Str) {p : Nat} (hp : pre.length = p) :
    ∃ dot, findFrom '.' p (pre ++ (fmtFix false w d x ++ (fmtFix false w d y ++ rest))) = some dot ∧
      findFrom '.' (dot + 1) (pre ++ (fmtFix false w d x ++ (fmtFix false w d y ++ rest))) = some (dot + w) := by
  subst hp
  obtain ⟨A, B, hfx, hA, hB, lB, lA⟩ := fmtFix_shape hd hx
  obtain ⟨A', B', hfy, hA', _, _, lA'⟩ := fmtFix_shape hd hy
  rw [hfx, hfy]
  have h2 : (pre ++ ((A ++ '.' :: B) ++ ((A' ++ '.' :: B') ++ rest))).drop (A.length + pre.length + 1)
      = (B ++ A') ++ '.' :: (B' ++ rest) := by
    rw [show pre ++ ((A ++ '.' :: B) ++ ((A' ++ '.' :: B') ++ rest))
      = (pre ++ (A ++ ['.'])) ++ ((B ++ A') ++ '.' :: (B' ++ rest)) by simp]
    exact List.drop_left' (by simp; omega)
  have hnot : '.' ∉ B ++ A' := fun h => (List.mem_append.mp h).elim hB hA'
  refine ⟨A.length + pre.length, by simp [findFrom, findIdx_append _ _ _ hA], ?_⟩
  simp only [findFrom, h2, findIdx_append _ _ _ hnot, Option.map_some, List.length_append, lB]
  congr 1; omega

theorem okName_spec {s : Str} (h : okName s = true) : NoWs s ∧ s ≠ [] ∧ s.length ≤ 5 := by
  simp only [okName, Bool.and_eq_true, decide_eq_true_eq, Bool.not_eq_true'] at h
  exact ⟨h.1.1, by intro e; subst e; simp at h, h.2⟩

theorem readAtom_specAtom (L : Layout) (hL : LayoutOK L) (d : Nat) (hd : 0 < d) (a : Atom) (ha : AtomOK L d a) :
    readAtom L (specAtom d a) = .ok (normAtom a, d + 5) := by
  obtain ⟨e1, e2, e3, e4⟩ := hL
  obtain ⟨hrn, hrname, haname, hser, hx, hy, hz, hv⟩ := ha
  simp only [fits, decide_eq_true_eq] at hx hy hz hv
  obtain ⟨n1, n2, n3⟩ := okName_spec hrname
  obtain ⟨m1, m2, m3⟩ := okName_spec haname
  -- first with the velocities, if any, and the end of the line as one field
  obtain ⟨tail, htail⟩ : ∃ tail, tail = (match a.vel with
      | none => []
      | some (vx, vy, vz) => fmtFix false (d + 5) (d + 1) vx ++ (fmtFix false (d + 5) (d + 1) vy ++ fmtFix false (d + 5) (d + 1) vz))
      ++ ['\n'] := ⟨_, rfl⟩
  obtain ⟨fs, hfs⟩ : ∃ fs, fs = [fmtInt 5 a.resnum, ljust 5 a.resname, rjust 5 a.atname, fmtInt 5 a.serial,
      fmtFix false (d + 5) d a.x, fmtFix false (d + 5) d a.y, fmtFix false (d + 5) d a.z, tail] := ⟨_, rfl⟩
  have hline : specAtom d a = fs.flatten := by rw [hfs, htail]; cases hvel : a.vel <;> simp [specAtom, hvel]
  have hw : fs.map List.length = [5, 5, 5, 5, d + 5, d + 5, d + 5, tail.length] := by
    simp [fmtInt, length_rjust, length_ljust, length_fmtFix, *]
  have cut := slices_fields fs hline _ hw [L.sResnum, L.sResname, L.sAtname, (L.posFrom + 0 * (d + 5), L.posFrom + 1 * (d + 5)),
      (L.posFrom + 1 * (d + 5), L.posFrom + 2 * (d + 5)), (L.posFrom + 2 * (d + 5), L.posFrom + 3 * (d + 5))]
    [0, 1, 2, 4, 5, 6] (by simp +arith [e1, e2, e3, e4])
  have hrest : sliceFrom (L.posFrom + 3 * (d + 5)) (specAtom d a) = tail := by
    rw [hline, sliceFrom, drop_fields hw 7 _ (by simp +arith [e4]), hfs]; simp
  obtain ⟨dot, dot1, dot2⟩ := findFrom_points hd hx hy
    (fmtInt 5 a.resnum ++ (ljust 5 a.resname ++ (rjust 5 a.atname ++ fmtInt 5 a.serial)))
    (fmtFix false (d + 5) d a.z ++ tail) (p := L.posFrom) (by simp [fmtInt, length_rjust, length_ljust, *])
  rw [show _ ++ _ = specAtom d a by simp [hline, hfs]] at dot1 dot2
  simp only [hfs, List.map_cons, List.map_nil, List.cons.injEq, and_true, List.getD_cons_succ, List.getD_cons_zero] at cut
  obtain ⟨s0, s1, s2, sX, sY, sZ⟩ := cut
  simp only [readAtom, sl, s0, s1, s2, fmtInt, pyInt_rjust, splitWs_ljust 5 _ n1 n2, splitWs_rjust 5 _ m1 m2,
    List.getLast?_singleton, dot1, dot2, Nat.add_sub_cancel_left, Nat.add_sub_cancel, sX, sY, sZ, pyFix_fmt, hrest]
  cases hvel : a.vel with
  | none =>
    simp only [hvel] at hv htail
    simp [htail, hv, normAtom, hvel, show strip ['\n'] = [] by decide]
  | some v =>
    obtain ⟨vx, vy, vz⟩ := v
    simp only [hvel] at hv htail
    have hne : (strip tail).isEmpty = false := by
      obtain ⟨A, B, hs, _⟩ := fmtFix_shape (Nat.succ_pos d) hv.1
      exact strip_ne_nil _ '.' (by simp [htail, hs]) (by decide)
    obtain ⟨gs, hgs⟩ : ∃ gs, gs = fs.dropLast ++ [fmtFix false (d + 5) (d + 1) vx, fmtFix false (d + 5) (d + 1) vy,
        fmtFix false (d + 5) (d + 1) vz, ['\n']] := ⟨_, rfl⟩
    have hline' : specAtom d a = gs.flatten := by simp [hline, hgs, hfs, htail]
    have hw' : gs.map List.length = [5, 5, 5, 5, d + 5, d + 5, d + 5, d + 5, d + 5, d + 5, 1] := by
      simp [fmtInt, length_rjust, length_ljust, length_fmtFix, *]
    have cut := slices_fields gs hline' _ hw' [(L.posFrom + 3 * (d + 5), L.posFrom + (3 + 1) * (d + 5)),
        (L.posFrom + 4 * (d + 5), L.posFrom + (4 + 1) * (d + 5)), (L.posFrom + 5 * (d + 5), L.posFrom + (5 + 1) * (d + 5))]
      [7, 8, 9] (by simp +arith [e4])
    simp only [hgs, hfs, List.dropLast, List.cons_append, List.nil_append, List.map_cons, List.map_nil, List.cons.injEq, and_true,
      List.getD_cons_succ, List.getD_cons_zero] at cut
    simp [hne, cut, pyFix_fmt, normAtom, hvel]

theorem hasSub_nl (s : Str) : hasSub tEq (s ++ ['\n']) = hasSub tEq s := by
  induction s with
  | nil => decide
  | cons c cs ih =>
    simp only [List.cons_append, hasSub, ih]
    congr 1
    cases cs with
    | nil => simp [tEq, List.isPrefixOf]
    | cons x r => simp [tEq, List.isPrefixOf]

theorem box_words (box : List Fx) (h : ∀ v ∈ box, (fixCore false boxD v).length < boxW) :
    splitWs ((box.map (fmtFix false boxW boxD)).flatten ++ ['\n']) = box.map (fixCore false boxD) := by
  have e : box.map (fmtFix false boxW boxD) = (box.map (fixP false boxW boxD)).map Padded.render := by
    simp [render_fixP]
  rw [e, splitWs_line]
  · simp [fixP]
  · intro x hx
    obtain ⟨v, _, rfl⟩ := List.mem_map.mp hx
    exact fixP_ok _ _ _ _
  · intro x hx
    obtain ⟨v, hv, rfl⟩ := List.mem_map.mp (List.mem_of_mem_tail hx)
    exact fun e => spaces_ne_nil (by have := h v hv; omega) (List.append_eq_nil_iff.mp e).1

theorem foldr_box (ws : List Fx) : (ws.map (fixCore false boxD)).foldr boxStep (.ok []) = .ok ws := by
  induction ws with
  | nil => rfl
  | cons v ws ih => simp [boxStep, pyFix_fixCore_self, ih]

theorem boxWords_ok (box : List Fx) (h : box.length = 3 ∨ box.length = 9) :
    boxWords (box.map (fixCore false boxD)) = .ok box := by
  unfold boxWords
  rcases h with h | h <;> simp [h, foldr_box, List.take_of_length_le]

theorem load_spec (L : Layout) (hL : LayoutOK L) (o : Obj) (h : Dom L o) : load L (specRender o) = .ok (denote o) := by
  obtain ⟨ht, hnl, hd, hat, hbox, hfit⟩ := h
  have h1 : hasSub tEq (o.title ++ ['\n']) = false := by rw [hasSub_nl]; exact ht
  have h2 : pyInt (fmtInt 5 (o.atoms.length : Int) ++ ['\n']) = some (o.atoms.length : Int) := by
    have := pyInt_intToDec (spaces (5 - (intToDec (o.atoms.length : Int)).length)) ['\n'] (o.atoms.length : Int) (allWs_spaces _) allWs_nl
    simpa [fmtInt, rjust] using this
  have h3 := readN_map (readAtom L) (specAtom o.d) (fun a => (normAtom a, o.d + 5)) o.atoms
    [(o.box.map (fmtFix false boxW boxD)).flatten ++ ['\n']] (fun a ha => readAtom_specAtom L hL o.d hd a (hat a ha))
  have nneg : ¬ ((o.atoms.length : Int) < 0) := by omega
  unfold load specRender
  simp only [h1, Bool.false_eq_true, if_false, h2, nneg, Int.toNat_natCast, h3, box_words o.box hfit, boxWords_ok o.box hbox]
  simp [denote, List.map_map, Function.comp_def]

end Iodata.Fmt.Gro
