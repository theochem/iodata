/- SDF: the column reader on the column writer's output. -/
import Iodata.Lemmas.Fmt.Fields
import Iodata.Model.Fmt.Sdf
namespace Iodata.Fmt.Sdf
open Iodata.Chars Iodata.Decimal Iodata.Fmt

def padR (w : Nat) (t : Str) : Padded := ⟨spaces (w - t.length), t, []⟩

theorem padR_render (w : Nat) (t : Str) : (padR w t).render = rjust w t := by simp [padR, Padded.render, rjust]
theorem padR_ok (w : Nat) (t : Str) (h : NoWs t) (hne : t ≠ []) : (padR w t).OK :=
  ⟨allWs_spaces _, h, hne, allWs_nil⟩
theorem padR_pre (w : Nat) (t : Str) (h : t.length < w) : (padR w t).pre ≠ [] := spaces_ne_nil (by omega)

theorem pyNat_natToDec (e : LErr) (n : Nat) : pyNat e (natToDec n) = .ok n := by
  simp [pyNat, show pyInt (natToDec n) = some (Int.ofNat n) from pyInt_natToDec n]

theorem pyFix_core (d : Nat) (v : Fx) : pyFix d (fixCore false d v) = some v := pyFix_fixCore_self d v

theorem okZ_spec {T : Tables} {L : Layout} {z : Nat} (h : okZ T L z = true) :
    ∃ s, T.sym? z = some s ∧ NoWs s ∧ s.length ≤ L.symW ∧ T.num? (title s) = some z := by
  unfold okZ at h
  cases e : T.sym? z with
  | none => simp [e] at h
  | some s =>
    simp only [e, Bool.and_eq_true, decide_eq_true_eq, beq_iff_eq] at h
    exact ⟨s, rfl, h.1.1, h.1.2, h.2⟩

theorem length_fmtNat {w n : Nat} (h : fitsNat w n = true) : (fmtNat w n).length = w := by
  simp only [fitsNat, decide_eq_true_eq] at h
  exact length_rjust _ _ h

theorem pyNat_fmtNat (e : LErr) (w n : Nat) : pyNat e (fmtNat w n) = .ok n := by
  simp [pyNat, fmtNat, show pyInt (rjust w (natToDec n)) = some (Int.ofNat n) from pyInt_rjust w n]

theorem loadAtom_dumpAtom (T : Tables) (L : Layout) (hL : LayoutOK L) (a : Atom)
    (hz : okZ T L a.zn = true) (hx : fitsFx L a.x = true) (hy : fitsFx L a.y = true) (hzz : fitsFx L a.z = true) :
    loadAtom T L (dumpAtom T L a) = .ok a := by
  obtain ⟨s, hs, hnw, hlen, hback⟩ := okZ_spec hz
  simp only [fitsFx, decide_eq_true_eq] at hx hy hzz
  obtain ⟨_, _, _, _, _, _, _, _, _, _, _, hsX, hsY, hsZ, hsS, _⟩ := hL
  have cut := slices_fields [fmtFix false L.coordW L.coordD a.x, fmtFix false L.coordW L.coordD a.y,
      fmtFix false L.coordW L.coordD a.z, L.symGap, ljust L.symW s, L.atomTail, ['\n']]
    (line := dumpAtom T L a) (by simp [dumpAtom, ln, Tables.sym, hs])
    [L.coordW, L.coordW, L.coordW, L.symGap.length, L.symW, L.atomTail.length, 1] (by simp [length_fmtFix, length_ljust, *])
    [L.sX, L.sY, L.sZ, L.sSym] [0, 1, 2, 4] (by simp +arith [hsX, hsY, hsZ, hsS])
  simp only [List.map_cons, List.map_nil, List.cons.injEq, and_true, List.getD_cons_succ, List.getD_cons_zero] at cut
  obtain ⟨sx, sy, sz, ss⟩ := cut
  simp [loadAtom, sl, sx, sy, sz, ss, strip_ljust _ (trimmed_of_noWs s hnw), pyFix_fmt, hback]

theorem loadBond_dumpBond (L : Layout) (hL : LayoutOK L) (b : Bond)
    (hi : fitsNat L.bondW (b.i + 1) = true) (hj : fitsNat L.bondW (b.j + 1) = true) (ht : fitsNat L.bondW b.t = true) :
    loadBond L (dumpBond L b) = .ok b := by
  obtain ⟨_, _, _, _, _, _, _, _, _, _, _, _, _, _, _, h1, h2, h3⟩ := hL
  have cut := slices_fields [fmtNat L.bondW (b.i + 1), fmtNat L.bondW (b.j + 1), fmtNat L.bondW b.t, L.bondTail, ['\n']]
    (line := dumpBond L b) (by simp [dumpBond, ln])
    [L.bondW, L.bondW, L.bondW, L.bondTail.length, 1] (by simp [length_fmtNat, *])
    [L.sB1, L.sB2, L.sBt] [0, 1, 2] (by simp +arith [h1, h2, h3])
  simp only [List.map_cons, List.map_nil, List.cons.injEq, and_true, List.getD_cons_succ, List.getD_cons_zero] at cut
  obtain ⟨s1, s2, s3⟩ := cut
  simp [loadBond, sl, s1, s2, s3, pyNat_fmtNat]

theorem brk_tail_nl {t : Str} (h : brkB t = true) : Brk (t ++ ['\n']) := by
  rcases brk_of_brkB h with h | ⟨c, r, h, hc⟩
  · rw [h]; exact brk_nl []
  · rw [h]; exact brk_cons _ hc

theorem counts_line (L : Layout) (hL : LayoutOK L) (na nb : Nat)
    (ha : fitsNat L.cntW na = true) (hb : fitsNat L.cntW nb = true) :
    pyNat .int (sl L.sNatom (countsLine L na nb)) = .ok na ∧ pyNat .int (sl L.sNbond (countsLine L na nb)) = .ok nb ∧
    ∃ wl, (splitWs (countsLine L na nb)).getLast? = some wl ∧ upper wl = "V2000".toList := by
  obtain ⟨_, _, _, _, hbrk, _, _, hlast, _, h1, h2, _⟩ := hL
  have cut := slices_fields [fmtNat L.cntW na, fmtNat L.cntW nb, L.countsTail, ['\n']]
    (line := countsLine L na nb) (by simp [countsLine, ln])
    [L.cntW, L.cntW, L.countsTail.length, 1] (by simp [length_fmtNat, *]) [L.sNatom, L.sNbond] [0, 1] (by simp +arith [h1, h2])
  simp only [List.map_cons, List.map_nil, List.cons.injEq, and_true, List.getD_cons_succ, List.getD_cons_zero] at cut
  obtain ⟨s1, s2⟩ := cut
  refine ⟨by rw [sl, s1]; exact pyNat_fmtNat _ _ _, by rw [sl, s2]; exact pyNat_fmtNat _ _ _, ?_⟩
  have e2 : countsLine L na nb = (fmtNat L.cntW na ++ fmtNat L.cntW nb) ++ (L.countsTail ++ ['\n']) := by simp [countsLine, ln]
  rw [e2, splitWs_append_brk _ _ (brk_tail_nl hbrk)]
  simp only [ln] at hlast
  cases e : splitWs (L.countsTail ++ ['\n']) with
  | nil => rw [e] at hlast; simp at hlast
  | cons w ws =>
    rw [e] at hlast
    obtain ⟨wl, hwl, hup⟩ := Option.map_eq_some_iff.mp hlast
    refine ⟨wl, ?_, hup⟩
    rw [List.getLast?_append, hwl]; rfl

theorem okTitle_spec {t : Str} (h : okTitle t = true) : Trimmed t ∧ '\n' ∉ t := trimmed_one_line h

theorem okTitle_outTitle (L : Layout) (hL : LayoutOK L) (t : Str) (h : okTitle t = true) :
    okTitle (outTitle L t) = true :=
  orDefault_ok (P := fun t => okTitle t = true) hL.1 h

theorem load_dump (T : Tables) (L : Layout) (hL : LayoutOK L) (o : Obj) (h : Dom T L o) :
    load T L (dump T L o) = .ok (norm L o) := by
  obtain ⟨ht, hna, hnb, hat, hbd⟩ := h
  have htt := okTitle_spec (okTitle_outTitle L hL o.title ht)
  obtain ⟨c1, c2, wl, hlast, hup⟩ := counts_line L hL o.atoms.length o.bonds.length hna hnb
  have hatoms := readN_map (loadAtom T L) (dumpAtom T L) id o.atoms
    (o.bonds.map (dumpBond L) ++ [ln L.endLine, ln L.sepLine])
    (fun a ha => by
      simpa using loadAtom_dumpAtom T L hL a (hat a ha).1 (hat a ha).2.1 (hat a ha).2.2.1 (hat a ha).2.2.2)
  have hbonds := readN_map (loadBond L) (dumpBond L) id o.bonds [ln L.endLine, ln L.sepLine]
    (fun b hb => by simpa using loadBond_dumpBond L hL b (hbd b hb).1 (hbd b hb).2.1 (hbd b hb).2.2)
  simp only [List.map_id] at hatoms hbonds
  have hend : hasEnd "$$$$".toList [ln L.endLine, ln L.sepLine] = true := by
    simp [hasEnd, hL.2.2.2.2.2.2.2.2.1]
  unfold dump load
  simp only [c1, c2, hlast, hup, bne_self_eq_false, Bool.false_eq_true, if_false, hatoms, hbonds, hend, if_true,
    strip_ln htt.1, norm]

theorem outTitle_idem (L : Layout) (hL : LayoutOK L) (t : Str) : outTitle L (outTitle L t) = outTitle L t :=
  orDefault_idem hL.2.1 t

theorem norm_idem (L : Layout) (hL : LayoutOK L) (o : Obj) : norm L (norm L o) = norm L o := by
  simp [norm, outTitle_idem L hL]

theorem dom_norm (T : Tables) (L : Layout) (hL : LayoutOK L) (o : Obj) (h : Dom T L o) : Dom T L (norm L o) :=
  ⟨okTitle_outTitle L hL o.title h.1, h.2⟩

theorem load_congr (T : Tables) (L L' : Layout) (h : L.coordD = L'.coordD)
    (hs : readerColumns L = readerColumns L') (ls : List Str) :
    load T L ls = load T L' ls := by
  simp only [readerColumns, List.cons.injEq, and_true] at hs
  obtain ⟨h1, h2, h3, h4, h5, h6, h7, h8, h9⟩ := hs
  have ha : loadAtom T L = loadAtom T L' := by funext line; unfold loadAtom; rw [h, h3, h4, h5, h6]
  have hb : loadBond L = loadBond L' := by funext line; unfold loadBond; rw [h7, h8, h9]
  unfold load; rw [ha, hb, h1, h2]

end Iodata.Fmt.Sdf
