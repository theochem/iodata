/- FCHK object layer: table lookups, inverse shuffles, C02 and C15 over the field layer. -/
import Iodata.Lemmas.Fmt.Fchk
import Iodata.Lemmas.Fmt.Assoc
import Iodata.Model.Fmt.FchkO
import Mathlib.Data.Nat.Basic
import Mathlib.Tactic.Ring
namespace Iodata.Fmt.FchkO
open Iodata.Chars Iodata.Decimal Iodata.Fmt Iodata.Fmt.Fchk

theorem filterMap_filter_none {α β} (p : α → Bool) (g : α → Option β) (h : ∀ a, p a = false → g a = none) :
    ∀ l : List α, l.filterMap g = (l.filter p).filterMap g := by
  intro l
  induction l with
  | nil => rfl
  | cons a l ih =>
    by_cases hp : p a = true
    · simp only [List.filter_cons, hp, if_true, List.filterMap_cons, ih]
    · have hp' : p a = false := by simpa using hp
      simp only [List.filter_cons, hp', Bool.false_eq_true, if_false, List.filterMap_cons, h a hp', ih]

theorem filterMap_sublist {α β} (f g : α → Option β) (h : ∀ a b, f a = some b → g a = some b) :
    ∀ l : List α, (l.filterMap f).Sublist (l.filterMap g) := by
  intro l
  induction l with
  | nil => exact List.Sublist.slnil
  | cons a l ih =>
    simp only [List.filterMap_cons]
    cases e : f a with
    | some b => rw [h a b e]; exact List.Sublist.cons_cons _ ih
    | none =>
      cases g a with
      | none => exact ih
      | some c => exact List.Sublist.cons _ ih

def nodupB : List Str → Bool
  | [] => true
  | a :: l => !l.contains a && nodupB l

theorem nodupB_sound : ∀ {l : List Str}, nodupB l = true → l.Nodup
  | [], _ => List.nodup_nil
  | a :: l, h => by
    simp only [nodupB, Bool.and_eq_true, Bool.not_eq_true', List.contains_eq_mem, decide_eq_false_iff_not] at h
    exact List.nodup_cons.mpr ⟨h.1, nodupB_sound h.2⟩

/-- `TablesOK` as a test that evaluates quickly: a reader row is compared with the one writer row `findW` gives for its
label (the only one, the writer labels being distinct) instead of with every writer row -/
def tablesB (W R : List Row) : Bool :=
  nodupB (W.map (·.label)) &&
  R.all (fun r => (findW W r.label).all fun w => w.attr == r.attr && invTr w.tr r.tr && w.unit + r.unit == 0) &&
  nodupB ((R.filter (matched W)).map (·.attr))

theorem tablesB_sound {W R : List Row} (h : tablesB W R = true) : TablesOK W R := by
  simp only [tablesB, Bool.and_eq_true, List.all_eq_true] at h
  obtain ⟨⟨h1, h2⟩, h3⟩ := h
  have hn := nodupB_sound h1
  refine ⟨hn, fun r hr w hw hl => ?_, nodupB_sound h3⟩
  have := h2 r hr
  rw [← hl, findW, find_self W (·.label) hn w hw] at this
  simpa [and_assoc] using this

theorem matched_iff {W : List Row} {r : Row} : matched W r = true ↔ ∃ w ∈ W, w.label = r.label := by
  simp [matched, findW]

theorem TablesOK.perm {W W' R : List Row} (h : TablesOK W R) (p : W.Perm W') : TablesOK W' R := by
  refine ⟨(p.map _).nodup_iff.mp h.1, fun r hr w hw => h.2.1 r hr w (p.mem_iff.mpr hw), ?_⟩
  have : matched W' = matched W := by
    funext r; rw [Bool.eq_iff_iff, matched_iff, matched_iff]; simp only [p.mem_iff]
  rw [this]; exact h.2.2

theorem TablesOK.append {P T R : List Row} (hP : TablesOK P R) (hT : TablesOK T R)
    (hl : ∀ t ∈ T, ∀ p ∈ P, t.label ≠ p.label)
    (ha : ∀ r ∈ R, matched T r = true → r.attr ∉ (R.filter (matched P)).map (·.attr)) : TablesOK (P ++ T) R := by
  refine ⟨?_, ?_, ?_⟩
  · rw [List.map_append]
    refine List.nodup_append.mpr ⟨hP.1, hT.1, ?_⟩
    intro a ha' b hb e
    obtain ⟨p, hp, rfl⟩ := List.mem_map.mp ha'
    obtain ⟨t, ht, rfl⟩ := List.mem_map.mp hb
    exact hl t ht p hp e.symm
  · intro r hr w hw
    exact (List.mem_append.mp hw).elim (hP.2.1 r hr w) (hT.2.1 r hr w)
  · have hm : ∀ r, matched (P ++ T) r = (matched P r || matched T r) := by
      intro r; simp [matched, findW, List.find?_append]
    have hx : ∀ r ∈ R, matched T r = true → ∀ r' ∈ R, matched P r' = true → r.attr ≠ r'.attr :=
      fun r hr m r' hr' m' e => ha r hr m (e ▸ List.mem_map_of_mem (List.mem_filter.mpr ⟨hr', m'⟩))
    have h1 := hP.2.2
    have h2 := hT.2.2
    rw [List.Nodup, List.pairwise_map, List.pairwise_filter] at h1 h2 ⊢
    refine (h1.and h2).imp_of_mem ?_
    intro r r' hr hr' hab m m'
    rw [hm, Bool.or_eq_true] at m m'
    rcases m with m | m <;> rcases m' with m' | m'
    · exact hab.1 m m'
    · exact (hx r' hr' m' r hr m).symm
    · exact hx r hr m r' hr' m'
    · exact hab.2 m m'

theorem subst_eq_self (lv : Str) : ∀ l : Str, hasSub placeholder l = false → subst lv l = l
  | [], _ => rfl
  | c :: s, h => by
    simp only [hasSub, Bool.or_eq_false_iff] at h
    simp only [subst, h.1, Bool.false_eq_true, if_false, subst_eq_self lv s h.2]

def isTempl (w : Row) : Bool := hasSub placeholder w.label

theorem resolve_perm (lv : Str) (W : List Row) :
    (resolve lv W).Perm (W.filter (fun w => !isTempl w) ++ resolve lv (W.filter isTempl)) := by
  have e : resolve lv (W.filter fun w => !isTempl w) = W.filter fun w => !isTempl w := by
    unfold resolve
    conv => rhs; rw [← List.map_id (W.filter fun w => !isTempl w)]
    apply List.map_congr_left
    intro w hw
    have : isTempl w = false := by simpa using (List.mem_filter.mp hw).2
    simp only [subst_eq_self lv w.label this, id]
  have p := (List.filter_append_perm (fun w => !isTempl w) W).map (fun w : Row => { w with label := subst lv w.label })
  rw [List.map_append] at p
  simp only [Bool.not_not] at p
  rw [← e]
  exact p.symm

theorem forall_mem_resolve {W : List Row} {lvs : List Str} {ok : Row → Prop}
    (h : (∀ w ∈ W.filter (fun w => !isTempl w), ok w) ∧ ∀ lv ∈ lvs, ∀ w ∈ resolve lv (W.filter isTempl), ok w) :
    ∀ lv ∈ lvs, ∀ w ∈ resolve lv W, ok w :=
  fun lv hlv w hw => (List.mem_append.mp ((resolve_perm lv W).mem_iff.mp hw)).elim (h.1 w) (h.2 lv hlv w)

/- The facts to be evaluated for a concrete table are one hypothesis (a conjunction), so that a single evaluation serves
them all: they share the rows without a template and the reader rows matched by these, which separate evaluations would
compute again. -/
theorem tablesOK_resolve {W R : List Row} {lvs : List Str}
    (h : tablesB (W.filter fun w => !isTempl w) R = true ∧ ∀ lv ∈ lvs, tablesB (resolve lv (W.filter isTempl)) R = true ∧
      (∀ t ∈ resolve lv (W.filter isTempl), ∀ p ∈ W.filter (fun w => !isTempl w), t.label ≠ p.label) ∧
      ∀ r ∈ R, matched (resolve lv (W.filter isTempl)) r = true →
        r.attr ∉ (R.filter (matched (W.filter fun w => !isTempl w))).map (·.attr)) :
    ∀ lv ∈ lvs, TablesOK (resolve lv W) R := by
  intro lv hlv
  obtain ⟨t, hl, ha⟩ := h.2 lv hlv
  exact ((tablesB_sound h.1).append (tablesB_sound t) hl ha).perm (resolve_perm lv W).symm

theorem tri_even (n : Nat) : 2 ∣ n * (n + 1) := by
  rcases Nat.even_or_odd n with ⟨k, hk⟩ | ⟨k, hk⟩
  · exact ⟨k * (n + 1), by subst hk; ring⟩
  · exact ⟨n * (k + 1), by subst hk; ring⟩

/-- `nrow = int(np.round((np.sqrt(1 + 8 * len(triangle)) - 1) / 2))` recovers the number of rows -/
theorem triRows_tri (n : Nat) : triRows (n * (n + 1) / 2) = n := by
  unfold triRows
  obtain ⟨k, hk⟩ := tri_even n
  have h8 : 1 + 8 * (n * (n + 1) / 2) = (2 * n + 1) * (2 * n + 1) := by
    rw [hk, Nat.mul_div_cancel_left _ (by decide : 0 < 2)]
    have : (2 * n + 1) * (2 * n + 1) = 4 * (n * (n + 1)) + 1 := by ring
    rw [this, hk]; ring
  rw [h8, Nat.sqrt_eq]
  omega

theorem getD_lt {α} (l : List α) (i : Nat) (d : α) (h : i < l.length) : l.getD i d = l[i] := by
  rw [List.getD_eq_getElem?_getD, List.getElem?_eq_getElem h]; rfl

theorem pick_pick (a b : List Nat) (h : pickInv a b = true) (l : List Sci) (hl : l.length = a.length) :
    pick zeroS b (pick zeroS a l) = l := by
  simp only [pickInv, Bool.and_eq_true, decide_eq_true_eq, List.all_eq_true, List.mem_range] at h
  obtain ⟨hab, hall⟩ := h
  unfold pick
  apply List.ext_getElem
  · simp; omega
  · intro i h1 h2
    simp only [List.length_map] at h1
    obtain ⟨hb, hi⟩ := hall i h1
    rw [getD_lt b i 0 h1] at hb hi
    simp only [List.getElem_map]
    have hlen : b[i] < (a.map fun k => l.getD k zeroS).length := by simpa using hb
    rw [getD_lt _ _ _ hlen]
    simp only [List.getElem_map]
    rw [getD_lt a _ 0 hb] at hi
    rw [hi]
    exact getD_lt l i zeroS h2

theorem appW_some (d : Nat) (tr : Tr) (v : AVal) (h : okVal tr v = true) : ∃ x, appW d tr v = some x := by
  cases tr <;> cases v <;> simp [okVal] at h <;> simp [appW]

theorem appR_appW (d : Nat) (tw tr : Tr) (v : AVal) (x : Value) (hv : okVal tw v = true) (hi : invTr tw tr = true)
    (hx : appW d tw v = some x) : appR tr x = some v := by
  cases tw <;> cases tr <;> simp [invTr] at hi
  · cases v <;> simp [appW] at hx <;> subst hx <;> simp [appR]
  · cases v <;> simp [appW] at hx
    rename_i n t
    simp only [okVal, Bool.and_eq_true, decide_eq_true_eq] at hv
    subst hx
    rw [tril_dense zeroS n t hv.2]
    simp [appR, hv.2, triRows_tri]
  · rename_i a b
    cases v <;> simp [appW] at hx
    rename_i l
    simp only [okVal, Bool.and_eq_true, decide_eq_true_eq, Bool.not_eq_true'] at hv
    subst hx
    simp [appR, pick_pick a b hi l hv.2]

theorem emit_nonEmpty (d : Nat) (s : Store) (w : Row) (f : Fld) (hok : ∀ v, get s w.attr = some v → okVal w.tr v = true)
    (h : emit d s w = some f) : nonEmpty f = true := by
  unfold emit at h
  cases e : get s w.attr with
  | none => simp [e] at h
  | some v =>
    have hv := hok v e
    simp only [e, Option.bind_some, Option.map_eq_some_iff] at h
    obtain ⟨x, hx, rfl⟩ := h
    cases htr : w.tr <;> rw [htr] at hx hv <;> cases v <;> simp [appW] at hx <;> simp [okVal] at hv <;> subst hx <;>
      simp [nonEmpty]
    · assumption
    · assumption
    · rename_i n t
      rw [tril_dense zeroS n t hv.2]
      intro ht; subst ht
      have h0 : n * (n + 1) / 2 = 0 := by simpa using hv.2.symm
      have : 0 < n * (n + 1) / 2 := Nat.div_pos (Nat.mul_le_mul hv.1 (Nat.succ_le_succ hv.1)) (by decide)
      omega
    · simp [pick]; exact hv.1
    · assumption

theorem okStore_spec {W : List Row} {s : Store} (h : okStore W s = true) :
    ∀ w ∈ W, ∀ v, get s w.attr = some v → okVal w.tr v = true := by
  intro w hw v hv
  have := (List.all_eq_true.mp h) w hw
  rw [hv] at this; exact this

theorem emit_label (d : Nat) (s : Store) (w : Row) (f : Fld) (h : emit d s w = some f) : f.1 = w.label := by
  unfold emit at h
  cases e : get s w.attr with
  | none => simp [e] at h
  | some v =>
    simp only [e, Option.bind_some, Option.map_eq_some_iff] at h
    obtain ⟨x, _, rfl⟩ := h
    rfl

theorem fields_nonEmpty (d : Nat) (W : List Row) (s : Store) (hok : okStore W s = true) :
    (fieldsOf d W s).filter nonEmpty = fieldsOf d W s := by
  rw [List.filter_eq_self]
  intro f hf
  obtain ⟨w, hw, he⟩ := List.mem_filterMap.mp hf
  exact emit_nonEmpty d s w f (okStore_spec hok w hw) he

theorem TablesOK.of_findW {W R : List Row} (hT : TablesOK W R) {r w : Row} (hr : r ∈ R) (h : findW W r.label = some w) :
    w ∈ W ∧ w.attr = r.attr ∧ invTr w.tr r.tr = true ∧ w.unit + r.unit = 0 := by
  have hwm : w ∈ W := List.mem_of_find?_eq_some h
  have hwl : w.label = r.label := by have := List.find?_some h; simpa using this
  exact ⟨hwm, hT.2.1 r hr w hwm hwl⟩

theorem attrs_fields (d : Nat) (W R : List Row) (s : Store) (hT : TablesOK W R) (hok : okStore W s = true) :
    attrsOf R (fieldsOf d W s) = normStore W R s := by
  unfold attrsOf normStore
  apply filterMap_congr_mem
  intro r hr
  unfold absorb fieldsOf
  rw [lookupK_filterMap W (emit d s) (·.label) (emit_label d s) r.label hT.1]
  show ((findW W r.label).bind (emit d s) |>.map (·.2)).bind _ = _
  cases hfw : findW W r.label with
  | none => rfl
  | some w =>
    obtain ⟨hwm, _, hinv, _⟩ := hT.of_findW hr hfw
    simp only [Option.bind_some]
    unfold emit
    cases hg : get s w.attr with
    | none => rfl
    | some v =>
      have hv := okStore_spec hok w hwm v hg
      obtain ⟨x, hx⟩ := appW_some d w.tr v hv
      simp only [Option.bind_some, hx, Option.map_some, appR_appW d w.tr r.tr v x hv hinv hx]

theorem load_dump (L : Layout) (hL : LayoutOK L) (Rn : RunTypes) (hR : RunTypesOK L Rn) (W R : List Row) (o : Obj)
    (hT : TablesOK (resolve (levelOf L.absent o.lot) W) R) (h : Dom L W o) :
    load L Rn R (dump L Rn W o) = .ok (norm L Rn W R o) := by
  unfold load dump
  rw [Fchk.load_dump L hL Rn hR (fun _ => true) (toFields L W o) h.1 (fun _ _ => rfl)]
  simp only [norm]
  congr 2
  show attrsOf R ((fieldsOf L.aD _ o.store).filter nonEmpty) = _
  rw [fields_nonEmpty _ _ _ h.2.1, attrs_fields _ _ _ _ hT h.2.1]

theorem get_normStore (W R : List Row) (s : Store) (a : Str) (v : AVal) (h : get (normStore W R s) a = some v)
    (hT : TablesOK W R) : get s a = some v := by
  unfold get lookupK at h
  simp only [Option.map_eq_some_iff] at h
  obtain ⟨e, he, rfl⟩ := h
  have hm := List.mem_of_find?_eq_some he
  have ha : e.1 = a := by have := List.find?_some he; simpa using this
  obtain ⟨r, hr, hre⟩ := List.mem_filterMap.mp hm
  cases hfw : findW W r.label with
  | none => simp [hfw] at hre
  | some w =>
    obtain ⟨_, hattr, _, _⟩ := hT.of_findW hr hfw
    simp only [hfw, Option.bind_some, Option.map_eq_some_iff] at hre
    obtain ⟨v', hv', rfl⟩ := hre
    simp only at ha ⊢
    rw [← ha, ← hattr]; exact hv'

theorem get_normStore_row (W R : List Row) (s : Store) (hT : TablesOK W R) (r : Row) (hr : r ∈ R) (w : Row)
    (hfw : findW W r.label = some w) : get (normStore W R s) w.attr = get s w.attr := by
  obtain ⟨_, hattr, _, _⟩ := hT.of_findW hr hfw
  let g : Row → Option (Str × AVal) := fun r => (findW W r.label).bind fun w => (get s w.attr).map fun v => (r.attr, v)
  have hg : ∀ a b, g a = some b → b.1 = a.attr := by
    intro a b hab
    simp only [g] at hab
    cases hf : findW W a.label with
    | none => simp [hf] at hab
    | some w' =>
      simp only [hf, Option.bind_some, Option.map_eq_some_iff] at hab
      obtain ⟨_, _, rfl⟩ := hab; rfl
  have hfil : normStore W R s = (R.filter (matched W)).filterMap g := by
    unfold normStore
    exact filterMap_filter_none (matched W) g (by
      intro a ha
      simp only [matched, Option.isSome_eq_false_iff, Option.isNone_iff_eq_none] at ha
      simp [g, ha]) R
  have hrm : r ∈ R.filter (matched W) := List.mem_filter.mpr ⟨hr, by simp [matched, hfw]⟩
  unfold get
  rw [hfil, lookupK_filterMap _ g (·.attr) hg w.attr hT.2.2, hattr, find_self _ (·.attr) hT.2.2 r hrm]
  simp only [Option.bind_some, g, hfw, Option.map_map]
  rw [← hattr]
  simp only [get]
  cases lookupK s w.attr <;> rfl

theorem normStore_idem (W R : List Row) (s : Store) (hT : TablesOK W R) :
    normStore W R (normStore W R s) = normStore W R s := by
  unfold normStore
  apply filterMap_congr_mem
  intro r hr
  cases hfw : findW W r.label with
  | none => rfl
  | some w =>
    simp only [Option.bind_some]
    have := get_normStore_row W R s hT r hr w hfw
    unfold normStore at this
    rw [this]

theorem level_stable (L : Layout) (hL : LayoutOK L) (hA : upper L.absent = L.absent) (lot : Option Str)
    (hw : optWord L.lotW lot = true) (hne : lot ≠ some []) :
    levelOf L.absent (some (lower (upper (orNA L lot)))) = levelOf L.absent lot := by
  obtain ⟨a1, _, _⟩ := layout_absent hL
  cases lot with
  | none =>
    have e : upper (lower (upper (orNA L none))) = L.absent := by
      simp only [orNA]; rw [upper_lower_upper a1, hA]
    simp only [levelOf, e]
  | some s =>
    have hs : s ≠ [] := fun e => hne (by rw [e])
    have e : upper (lower (upper (orNA L (some s)))) = upper s := by
      rw [orNA_some_ne L s hs]
      exact upper_lower_upper (okWord_spec hw).1
    simp only [levelOf, e]

theorem norm_hdr (L : Layout) (Rn : RunTypes) (t : Str) (r l b : Option Str) (f1 f2 : List Fld) :
    (Fchk.norm L Rn ⟨t, r, l, b, f1⟩).title = (Fchk.norm L Rn ⟨t, r, l, b, f2⟩).title ∧
    (Fchk.norm L Rn ⟨t, r, l, b, f1⟩).runType = (Fchk.norm L Rn ⟨t, r, l, b, f2⟩).runType ∧
    (Fchk.norm L Rn ⟨t, r, l, b, f1⟩).lot = (Fchk.norm L Rn ⟨t, r, l, b, f2⟩).lot ∧
    (Fchk.norm L Rn ⟨t, r, l, b, f1⟩).basis = (Fchk.norm L Rn ⟨t, r, l, b, f2⟩).basis := ⟨rfl, rfl, rfl, rfl⟩

theorem level_norm (L : Layout) (hL : LayoutOK L) (hA : upper L.absent = L.absent) (Rn : RunTypes) (W R : List Row) (o : Obj)
    (h : Dom L W o) : levelOf L.absent (norm L Rn W R o).obj.lot = levelOf L.absent o.lot :=
  level_stable L hL hA o.lot h.1.2.2.1 h.2.2

theorem norm_idem (L : Layout) (hL : LayoutOK L) (hA : upper L.absent = L.absent) (Rn : RunTypes) (hR : RunTypesOK L Rn)
    (W R : List Row) (o : Obj) (hT : TablesOK (resolve (levelOf L.absent o.lot) W) R) (h : Dom L W o) :
    norm L Rn W R (norm L Rn W R o).obj = norm L Rn W R o := by
  have hid := Fchk.norm_idem L hL Rn hR (toFields L W o) h.1
  have hs : normStore (resolve (levelOf L.absent (norm L Rn W R o).obj.lot) W) R (norm L Rn W R o).obj.store
      = normStore (resolve (levelOf L.absent o.lot) W) R o.store := by
    rw [level_norm L hL hA Rn W R o h]; exact normStore_idem _ _ _ hT
  have t1 := congrArg Fchk.Loaded.title hid
  have t2 := congrArg Fchk.Loaded.runType hid
  have t3 := congrArg Fchk.Loaded.lot hid
  have t4 := congrArg Fchk.Loaded.basis hid
  show (⟨_, _, _, _, _⟩ : Loaded) = ⟨_, _, _, _, _⟩
  congr 1

theorem dom_norm (L : Layout) (hL : LayoutOK L) (hA : upper L.absent = L.absent) (Rn : RunTypes) (hR : RunTypesOK L Rn)
    (W R : List Row) (o : Obj) (hT : TablesOK (resolve (levelOf L.absent o.lot) W) R) (h : Dom L W o) :
    Dom L W (norm L Rn W R o).obj := by
  obtain ⟨ht, hrt, hlot, hbas, hf, hnd⟩ := Fchk.dom_norm L hL Rn hR (toFields L W o) h.1
  have hsub : (fieldsOf L.aD (resolve (levelOf L.absent o.lot) W) (normStore (resolve (levelOf L.absent o.lot) W) R o.store)).Sublist
      (fieldsOf L.aD (resolve (levelOf L.absent o.lot) W) o.store) := by
    apply filterMap_sublist
    intro w f hwf
    unfold emit at hwf ⊢
    cases hg : get (normStore (resolve (levelOf L.absent o.lot) W) R o.store) w.attr with
    | none => simp [hg] at hwf
    | some v => rw [get_normStore _ _ _ _ _ hg hT]; rw [hg] at hwf; exact hwf
  have hl : (norm L Rn W R o).obj.lot ≠ some [] := by
    intro e
    have hl := orNA_spec L hL L.lotW (Nat.le_trans (Nat.min_le_right _ _) (Nat.min_le_left _ _)) o.lot h.1.2.2.1
    exact lu_ne hl.2.2 (Option.some.inj e)
  unfold Dom toFields
  rw [level_norm L hL hA Rn W R o h]
  refine ⟨⟨ht, hrt, hlot, hbas, fun f hf' => h.1.2.2.2.2.1 f (hsub.subset hf'),
    List.Pairwise.sublist (hsub.map _) h.1.2.2.2.2.2⟩, ?_, hl⟩
  rw [okStore, List.all_eq_true]
  intro w hw
  cases hg : get (norm L Rn W R o).obj.store w.attr with
  | none => rfl
  | some v => exact okStore_spec h.2.1 w hw v (get_normStore _ _ _ _ _ hg hT)

end Iodata.Fmt.FchkO
