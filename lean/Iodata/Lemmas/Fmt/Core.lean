/- Generic lemmas for the format models: record loops, blank-padded tokens, printed numbers as such tokens. -/
import Iodata.Lemmas.Chars
import Iodata.Lemmas.DecimalSci
import Iodata.Model.Fmt.Core
namespace Iodata.Fmt
open Iodata.Chars Iodata.Decimal

theorem readN_map {α β} (p : Str → R β) (w : α → Str) (g : α → β) (xs : List α) (rest : List Str)
    (h : ∀ x ∈ xs, p (w x) = .ok (g x)) :
    readN p xs.length (xs.map w ++ rest) = .ok (xs.map g, rest) := by
  induction xs with
  | nil => rfl
  | cons x xs ih =>
    obtain ⟨hx, hxs⟩ := List.forall_mem_cons.mp h
    have := ih hxs
    simp only [List.length_cons, List.map_cons, List.cons_append, readN, hx, this]

/-- a token with blank padding on both sides -/
structure Padded where
  pre : Str
  tok : Str
  post : Str

def Padded.render (x : Padded) : Str := x.pre ++ (x.tok ++ x.post)
def Padded.OK (x : Padded) : Prop := AllWs x.pre ∧ NoWs x.tok ∧ x.tok ≠ [] ∧ AllWs x.post

theorem splitWs_allWs_append (p r : Str) (hp : AllWs p) : splitWs (p ++ r) = splitWs r := splitGo_ws p r hp

/-- fields written one after the other, each (but possibly the first) preceded by at least one blank -/
theorem splitWs_fields (xs : List Padded) (tail : Str) (h : ∀ x ∈ xs, x.OK)
    (hsep : ∀ x ∈ xs.tail, x.pre ≠ []) (ht : Brk tail) :
    splitWs ((xs.map Padded.render).flatten ++ tail) = xs.map (·.tok) ++ splitWs tail := by
  induction xs with
  | nil => simp
  | cons x xs ih =>
    obtain ⟨hx, hxs⟩ := List.forall_mem_cons.mp h
    have hsep' : ∀ y ∈ xs.tail, y.pre ≠ [] := fun y hy => hsep y (by
      simp only [List.tail_cons]; exact List.mem_of_mem_tail hy)
    have hb : Brk ((xs.map Padded.render).flatten ++ tail) := by
      cases xs with
      | nil => simpa using ht
      | cons y ys =>
        have hy := hxs y List.mem_cons_self
        have hne : y.pre ≠ [] := hsep y (by simp)
        simp only [List.map_cons, List.flatten_cons, Padded.render, List.append_assoc]
        exact brk_allWs_ne_nil_append _ hy.1 hne
    have e : ((x :: xs).map Padded.render).flatten ++ tail
        = x.pre ++ (x.tok ++ (x.post ++ ((xs.map Padded.render).flatten ++ tail))) := by
      simp [Padded.render]
    rw [e, splitWs_field _ _ _ hx.1 hx.2.1 hx.2.2.1 (brk_allWs_append _ hx.2.2.2 hb),
      splitWs_allWs_append _ _ hx.2.2.2, ih hxs hsep']
    simp

def Padded.sp (x : Padded) : Padded := ⟨' ' :: x.pre, x.tok, x.post⟩

theorem Padded.render_sp (x : Padded) : x.sp.render = ' ' :: x.render := rfl
theorem Padded.OK.sp {x : Padded} (h : x.OK) : x.sp.OK := ⟨allWs_cons (by decide) h.1, h.2⟩
theorem Padded.sp_tok (x : Padded) : x.sp.tok = x.tok := rfl
theorem Padded.sp_pre_ne_nil (x : Padded) : x.sp.pre ≠ [] := List.cons_ne_nil _ _

theorem joinSp_render (x : Padded) (xs : List Padded) :
    joinSp ((x :: xs).map Padded.render) = ((x :: xs.map Padded.sp).map Padded.render).flatten := by
  induction xs generalizing x with
  | nil => simp [joinSp, List.intercalate]
  | cons y ys ih =>
    have e : joinSp ((x :: y :: ys).map Padded.render) = x.render ++ (' ' :: joinSp ((y :: ys).map Padded.render)) := by
      simp [joinSp, List.intercalate]
    rw [e, ih y]; simp [Padded.render_sp]

/-- `(" ".join(padded words) + tail).split()` -/
theorem splitWs_joinSp_padded (xs : List Padded) (tail : Str) (h : ∀ x ∈ xs, x.OK) (ht : Brk tail) :
    splitWs (joinSp (xs.map Padded.render) ++ tail) = xs.map (·.tok) ++ splitWs tail := by
  cases xs with
  | nil => simp [joinSp, List.intercalate]
  | cons x xs =>
    obtain ⟨hx, hxs⟩ := List.forall_mem_cons.mp h
    rw [joinSp_render, splitWs_fields _ tail ?_ ?_ ht, List.map_cons, List.map_map]
    · rfl
    · exact List.forall_mem_cons.mpr ⟨hx, List.forall_mem_map.mpr fun z hz => (hxs z hz).sp⟩
    · exact List.forall_mem_map.mpr fun z _ => z.sp_pre_ne_nil

/-- `f"{s:ws}"` as a padded token -/
def ljustP (w : Nat) (s : Str) : Padded := ⟨[], s, spaces (w - s.length)⟩

theorem render_ljustP (w : Nat) (s : Str) : (ljustP w s).render = ljust w s := rfl
theorem ljustP_ok (w : Nat) {s : Str} (h1 : NoWs s) (h2 : s ≠ []) : (ljustP w s).OK := ⟨allWs_nil, h1, h2, allWs_spaces _⟩

/-- `f"{s:>w}"` as a padded token -/
def rjustP (w : Nat) (s : Str) : Padded := ⟨spaces (w - s.length), s, []⟩

theorem render_rjustP (w : Nat) (s : Str) : (rjustP w s).render = rjust w s := by simp [Padded.render, rjustP, rjust]
theorem rjustP_ok (w : Nat) {s : Str} (h1 : NoWs s) (h2 : s ≠ []) : (rjustP w s).OK := ⟨allWs_spaces _, h1, h2, allWs_nil⟩
theorem rjustP_pre_ne_nil {w : Nat} {s : Str} (h : s.length < w) : (rjustP w s).pre ≠ [] := spaces_ne_nil (by omega)

/-- a line of fields, each (but possibly the first) preceded by a blank -/
theorem splitWs_line (xs : List Padded) (h : ∀ x ∈ xs, x.OK) (hsep : ∀ x ∈ xs.tail, x.pre ≠ []) :
    splitWs ((xs.map Padded.render).flatten ++ ['\n']) = xs.map (·.tok) := by
  rw [splitWs_fields xs _ h hsep (brk_nl _), splitWs_allWs _ allWs_nl, List.append_nil]

/-- `f"{i:wd}"` -/
def intP (w : Nat) (i : Int) : Padded := ⟨spaces (w - (intToDec i).length), intToDec i, []⟩

/-- `f"{x:w.df}"` / `f"{x: w.df}"` -/
def fixP (sp : Bool) (w d : Nat) (x : Fx) : Padded :=
  ⟨spaces (w - (fixCore sp d x).length) ++ signPad sp x.neg, fixCore false d x, []⟩

/-- `f"{x:w.dE}"` / `f"{x: w.dE}"` and the lower-case forms -/
def sciP (sp up : Bool) (w d : Nat) (x : Sci) : Padded :=
  ⟨spaces (w - (sciCore sp up d x).length) ++ signPad sp x.neg, sciCoreC false (if up then 'E' else 'e') d x, []⟩

theorem render_intP (w : Nat) (i : Int) : (intP w i).render = fmtInt w i := by
  simp [Padded.render, intP, fmtInt_eq]
theorem render_fixP (sp : Bool) (w d : Nat) (x : Fx) : (fixP sp w d x).render = fmtFix sp w d x := by
  simp [Padded.render, fixP, fmtFix_eq]
theorem render_sciP (sp up : Bool) (w d : Nat) (x : Sci) : (sciP sp up w d x).render = fmtSci sp up w d x := by
  simp [Padded.render, sciP, fmtSci_eq]

theorem intP_ok (w : Nat) (i : Int) : (intP w i).OK := ⟨allWs_spaces _, intToDec_noWs i, intToDec_ne_nil i, allWs_nil⟩
theorem fixP_ok (sp : Bool) (w d : Nat) (x : Fx) : (fixP sp w d x).OK :=
  ⟨allWs_append (allWs_spaces _) (allWs_signPad _ _), fixCore_noWs d x, fixCore_ne_nil _ d x, allWs_nil⟩
theorem sciP_ok (sp up : Bool) (w d : Nat) (x : Sci) : (sciP sp up w d x).OK :=
  ⟨allWs_append (allWs_spaces _) (allWs_signPad _ _), sciCoreC_noWs _ (by cases up <;> decide) d x,
    sciCoreC_ne_nil _ _ d x, allWs_nil⟩

theorem intP_pre_ne_nil {w : Nat} {i : Int} (h : (intToDec i).length < w) : (intP w i).pre ≠ [] :=
  spaces_ne_nil (by omega)
theorem sciP_pre_ne_nil {sp up : Bool} {w d : Nat} {x : Sci} (h : (sciCore sp up d x).length < w) :
    (sciP sp up w d x).pre ≠ [] :=
  fun e => spaces_ne_nil (by omega) (List.append_eq_nil_iff.mp e).1

end Iodata.Fmt
