/- Association lists built by `filterMap` over a list with distinct keys: look-ups go through the underlying list. -/
import Iodata.Model.Fmt.Core
namespace Iodata.Fmt
open Iodata.Chars

theorem filterMap_congr_mem {α β} {l : List α} {f g : α → Option β} (h : ∀ x ∈ l, f x = g x) : l.filterMap f = l.filterMap g := by
  induction l with
  | nil => rfl
  | cons a l ih =>
    simp only [List.filterMap_cons, h a List.mem_cons_self, ih (fun x hx => h x (List.mem_cons_of_mem _ hx))]

theorem lookupK_filterMap_none {α κ ν} [BEq κ] [LawfulBEq κ] (l : List α) (f : α → Option (κ × ν)) (key : α → κ)
    (hf : ∀ a b, f a = some b → b.1 = key a) (k : κ) (h : k ∉ l.map key) : lookupK (l.filterMap f) k = none := by
  unfold lookupK
  rw [List.find?_filterMap, List.find?_eq_none.mpr, Option.bind_none, Option.map_none]
  intro a ha hp
  cases hb : f a with
  | none => simp [hb] at hp
  | some b =>
    rw [hb, Option.any_some] at hp
    exact h (List.mem_map.mpr ⟨a, ha, (hf a b hb).symm.trans (eq_of_beq hp)⟩)

theorem lookupK_filterMap {α κ ν} [BEq κ] [LawfulBEq κ] (l : List α) (f : α → Option (κ × ν)) (key : α → κ)
    (hf : ∀ a b, f a = some b → b.1 = key a) (k : κ) (hn : (l.map key).Nodup) :
    lookupK (l.filterMap f) k = ((l.find? fun a => key a == k).bind f).map (·.2) := by
  induction l with
  | nil => rfl
  | cons a l ih =>
    simp only [List.map_cons, List.nodup_cons] at hn
    simp only [List.filterMap_cons, List.find?_cons]
    by_cases hk : key a = k
    · have hk' : (key a == k) = true := by simp [hk]
      rw [hk']
      simp only [Option.bind_some]
      cases e : f a with
      | none =>
        simp only [Option.map_none]
        exact lookupK_filterMap_none l f key hf k (hk ▸ hn.1)
      | some b =>
        have hb := hf a b e
        simp only [lookupK, List.find?_cons, Option.map_some]
        have : (b.1 == k) = true := by rw [hb]; simp [hk]
        rw [this]; rfl
    · have hk' : (key a == k) = false := by simp [hk]
      rw [hk']
      cases e : f a with
      | none => exact ih hn.2
      | some b =>
        have hb := hf a b e
        simp only [lookupK, List.find?_cons]
        have : (b.1 == k) = false := by rw [hb]; simp [hk]
        rw [this]
        exact ih hn.2

theorem find_self {α κ} [BEq κ] [LawfulBEq κ] (l : List α) (key : α → κ) (hn : (l.map key).Nodup) (r : α) (hr : r ∈ l) :
    (l.find? fun a => key a == key r) = some r := by
  induction l with
  | nil => cases hr
  | cons a l ih =>
    simp only [List.map_cons, List.nodup_cons] at hn
    simp only [List.find?_cons]
    rcases List.mem_cons.mp hr with rfl | hr
    · simp
    · have : key a ≠ key r := fun e => hn.1 (e ▸ List.mem_map_of_mem hr)
      have h' : (key a == key r) = false := by simp [this]
      rw [h']
      exact ih hn.2 hr

end Iodata.Fmt
