/- FCHK field layer: chunking for all sizes, token reading across lines, header words, whole files; index shuffles.
`chunks_spec` / `chunked` also serve PDB CONECT, WFN and WFX (lists written `k` to the line), `readTok_dataLines` also Cube. -/
import Iodata.Lemmas.Fmt.Fields
import Iodata.Model.Fmt.Fchk
namespace Iodata.Fmt.Fchk
open Iodata.Chars Iodata.Decimal Iodata.Fmt

/-- induction along `chunkF`: a last line of at most `k` elements, or a full line and then the rest -/
theorem chunkF_induction {α} (k : Nat) (hk : 0 < k) (P : List α → List (List α) → Prop)
    (last : ∀ l, l ≠ [] → l.length ≤ k → P l [l])
    (step : ∀ l chs, k < l.length → P (l.drop k) chs → P l (l.take k :: chs)) :
    ∀ (f : Nat) (l : List α), l.length ≤ f → l ≠ [] → P l (chunkF k f l) := by
  intro f; induction f with
  | zero => intro l h hne; exact absurd (List.length_eq_zero_iff.mp (by omega)) hne
  | succ f ih =>
    intro l h hne
    unfold chunkF
    by_cases hl : l.length ≤ k
    · rw [if_pos hl]; exact last l hne hl
    · rw [if_neg hl]
      have hd : (l.drop k).length = l.length - k := List.length_drop
      refine step l _ (by omega) (ih (l.drop k) (by omega) ?_)
      intro e; rw [e] at hd; simp at hd; omega

/-- the lines of an array hold its elements in order, `k` per line, no line empty — for every length ≥ 1 -/
theorem chunks_spec {α} (k : Nat) (hk : 0 < k) (l : List α) (hne : l ≠ []) :
    (chunks k l).flatten = l ∧ ∀ ch ∈ chunks k l, ch ≠ [] ∧ ch.length ≤ k :=
  chunkF_induction k hk (fun l chs => chs.flatten = l ∧ ∀ ch ∈ chs, ch ≠ [] ∧ ch.length ≤ k)
    (fun l hne hl => ⟨by simp, fun ch hch => by rw [List.mem_singleton.mp hch]; exact ⟨hne, hl⟩⟩)
    (fun l chs hl ⟨h1, h2⟩ => ⟨by simp [h1], fun ch hch => by
      rcases List.mem_cons.mp hch with rfl | hm
      · have hlen : (l.take k).length = k := by rw [List.length_take]; omega
        exact ⟨fun e => by rw [e] at hlen; simp at hlen; omega, by omega⟩
      · exact h2 ch hm⟩)
    l.length l (Nat.le_refl _) hne

/-- a list written `per` items to the line (nothing for the empty list): its items in order, no line empty -/
theorem chunked {α β} (per : Nat) (hper : 0 < per) (f : List α → β) (l : List α) :
    ∃ chs : List (List α), chs.flatten = l ∧ (∀ ch ∈ chs, ch ≠ []) ∧
      (if l.isEmpty then [] else (chunks per l).map f) = chs.map f := by
  by_cases he : l = []
  · exact ⟨[], by simp [he], by simp, by simp [he]⟩
  · obtain ⟨h1, h2⟩ := chunks_spec per hper l he
    exact ⟨_, h1, fun ch hch => (h2 ch hch).1, by simp [he]⟩

/-- the last line is ragged exactly when `k` does not divide the length; all others are full -/
theorem chunkF_lengths {α} (k : Nat) (hk : 0 < k) : ∀ (f : Nat) (l : List α), l.length ≤ f → l ≠ [] →
    (chunkF k f l).map List.length = List.replicate ((l.length - 1) / k) k ++ [(l.length - 1) % k + 1] :=
  chunkF_induction k hk
    (fun l chs => chs.map List.length = List.replicate ((l.length - 1) / k) k ++ [(l.length - 1) % k + 1])
    (fun l hne hl => by
      have hpos : 0 < l.length := List.length_pos_iff.mpr hne
      rw [Nat.div_eq_of_lt (by omega), Nat.mod_eq_of_lt (by omega)]
      simp; omega)
    (fun l chs hl ih => by
      have e : l.length - 1 = (l.length - k - 1) + k := by omega
      rw [List.map_cons, ih, List.length_take, List.length_drop, e, Nat.add_div_right _ hk, Nat.add_mod_right,
        List.replicate_succ, Nat.min_eq_left (by omega)]
      rfl)

theorem chunks_lengths {α} (k : Nat) (hk : 0 < k) (l : List α) (hne : l ≠ []) :
    (chunks k l).map List.length = List.replicate ((l.length - 1) / k) k ++ [(l.length - 1) % k + 1] :=
  chunkF_lengths k hk l.length l (Nat.le_refl _) hne

theorem readTok_words {β} (conv : Str → Option β) (tok : β → Str) {n : Nat} {ls r : List Str} {us : List β}
    (h : readTok conv n [] ls = .ok (us, r)) : ∀ vs : List β, (∀ v ∈ vs, conv (tok v) = some v) →
    readTok conv (vs.length + n) (vs.map tok) ls = .ok (vs ++ us, r) := by
  intro vs; induction vs with
  | nil => intro _; simpa using h
  | cons v vs ih =>
    intro hv
    rw [List.length_cons, Nat.add_right_comm]
    simp only [List.map_cons, readTok, hv v List.mem_cons_self, ih fun x hx => hv x (List.mem_cons_of_mem _ hx),
      Res.consFst, List.cons_append]

theorem readTok_line {β} (conv : Str → Option β) (n : Nat) (l : Str) (ls : List Str) (h : splitWs l ≠ []) :
    readTok conv (n + 1) [] (l :: ls) = readTok conv (n + 1) (splitWs l) ls := by
  cases e : splitWs l with
  | nil => exact absurd e h
  | cons w ws => simp [readTok, e]

theorem triIdx_le {i j : Nat} (h : j ≤ i) : triIdx i j = i * (i + 1) / 2 + j := by
  simp [triIdx, Nat.max_eq_left h, Nat.min_eq_right h]

theorem tri_succ (n : Nat) : (n + 1) * (n + 2) / 2 = n * (n + 1) / 2 + (n + 1) := by
  have h : (n + 1) * (n + 2) = n * (n + 1) + 2 * (n + 1) := by
    simp [Nat.mul_add, Nat.add_mul]; omega
  rw [h, Nat.add_mul_div_left _ _ (by omega : 0 < 2)]

theorem map_getD_range {α} (d : α) (t : List α) (a k : Nat) (h : a + k ≤ t.length) :
    ((List.range k).map fun j => t.getD (a + j) d) = (t.drop a).take k := by
  apply List.ext_getElem
  · simp; omega
  · intro i h1 h2
    simp at h1
    simp [List.getD, List.getElem?_eq_getElem (by omega : a + i < t.length)]

theorem tril_dense_take {α} (d : α) (t : List α) : ∀ n m, n ≤ m → n * (n + 1) / 2 ≤ t.length →
    ((List.range n).flatMap fun i => ((List.range m).map fun j => t.getD (triIdx i j) d).take (i + 1))
      = t.take (n * (n + 1) / 2) := by
  intro n; induction n with
  | zero => intro m _ _; simp
  | succ n ih =>
    intro m hm hlen
    rw [tri_succ] at hlen
    rw [List.range_succ, List.flatMap_append, ih m (by omega) (by omega)]
    simp only [List.flatMap_cons, List.flatMap_nil, List.append_nil]
    rw [← List.map_take, List.take_range, Nat.min_eq_left (by omega)]
    have : ((List.range (n + 1)).map fun j => t.getD (triIdx n j) d)
        = (List.range (n + 1)).map fun j => t.getD (n * (n + 1) / 2 + j) d := by
      apply List.map_congr_left
      intro j hj
      rw [triIdx_le (by have := List.mem_range.mp hj; omega)]
    rw [this, map_getD_range d t _ _ (by omega), tri_succ]
    exact List.take_add.symm

/-- `tril ∘ _triangle_to_dense = id`, for every matrix size -/
theorem tril_dense {α} (d : α) (n : Nat) (t : List α) (h : t.length = n * (n + 1) / 2) : tril (dense d n t) = t := by
  unfold tril dense
  rw [zipIdx_map_range, List.flatMap_map]
  have := tril_dense_take d t n n (Nat.le_refl _) (by omega)
  simp only at this ⊢
  rw [this, ← h, List.take_length]

theorem getD_map_range {β} (f : Nat → β) (n i : Nat) (dflt : β) :
    ((List.range n).map f).getD i dflt = if i < n then f i else dflt := by
  by_cases hi : i < n <;> simp [List.getD, hi]

theorem triIdx_comm (i j : Nat) : triIdx i j = triIdx j i := by
  simp only [triIdx, Nat.max_comm i j, Nat.min_comm i j]

theorem dense_getD {α} (d : α) (n : Nat) (t : List α) (i j : Nat) :
    ((dense d n t).getD i []).getD j d = if i < n ∧ j < n then t.getD (triIdx i j) d else d := by
  rw [dense, getD_map_range]
  by_cases hi : i < n
  · rw [if_pos hi, getD_map_range]; simp only [hi, true_and]
  · simp [hi]

theorem dense_symm {α} (d : α) (n : Nat) (t : List α) (i j : Nat) :
    ((dense d n t).getD i []).getD j d = ((dense d n t).getD j []).getD i d := by
  simp only [dense_getD, triIdx_comm i j, and_comm]

/-- type letter, blanks, one padded token -/
theorem words2 (ty : Char) (hty : isWs ty = false) (p : Str) (hp : AllWs p) (hpne : p ≠ []) (P : Padded) (hP : P.OK) :
    splitWs ([ty] ++ (p ++ (P.render ++ ['\n']))) = [[ty], P.tok] := by
  have e : p ++ (P.render ++ ['\n']) = (p ++ P.pre) ++ (P.tok ++ (P.post ++ ['\n'])) := by simp [Padded.render]
  rw [splitWs_tok [ty] _ (noWs_cons hty noWs_nil) (by simp) (brk_allWs_ne_nil_append _ hp hpne), e,
    splitWs_field _ _ _ (allWs_append hp hP.1) hP.2.1 hP.2.2.1 (brk_allWs_append _ hP.2.2.2 (brk_nl _)),
    splitWs_allWs _ (allWs_append hP.2.2.2 allWs_nl)]

/-- type letter, blanks, `N=`, one padded token -/
theorem words3 (ty : Char) (hty : isWs ty = false) (p : Str) (hp : AllWs p) (hpne : p ≠ []) (P : Padded) (hP : P.OK)
    (hne : P.pre ≠ []) : splitWs ([ty] ++ (p ++ (nEq ++ (P.render ++ ['\n'])))) = [[ty], nEq, P.tok] := by
  have e : P.render ++ ['\n'] = P.pre ++ (P.tok ++ (P.post ++ ['\n'])) := by simp [Padded.render]
  rw [splitWs_tok [ty] _ (noWs_cons hty noWs_nil) (by simp) (brk_allWs_ne_nil_append _ hp hpne), e,
    splitWs_field p nEq _ hp (by decide) (by decide) (brk_allWs_ne_nil_append _ hP.1 hne),
    splitWs_field _ _ _ hP.1 hP.2.1 hP.2.2.1 (brk_allWs_append _ hP.2.2.2 (brk_nl _)),
    splitWs_allWs _ (allWs_append hP.2.2.2 allWs_nl)]

theorem dataLine_words {β} (render : β → Str) (P : β → Padded) (ch : List β)
    (h : ∀ v ∈ ch, (P v).render = render v ∧ (P v).OK ∧ (P v).pre ≠ []) :
    splitWs (dataLine render ch) = ch.map fun v => (P v).tok := by
  have e : ch.map render = (ch.map P).map Padded.render := by
    rw [List.map_map]; exact List.map_congr_left fun v hv => (h v hv).1.symm
  unfold dataLine
  rw [e, splitWs_line _ ?_ ?_, List.map_map]
  · rfl
  · exact List.forall_mem_map.mpr fun v hv => (h v hv).2.1
  · intro x hx
    obtain ⟨v, hv, rfl⟩ := List.mem_map.mp (List.mem_of_mem_tail hx)
    exact (h v hv).2.2

/-- the data lines of an array, however its elements are grouped into non-empty lines, are read back in order,
and the lines after them are left unread -/
theorem readTok_dataLines {β} (conv : Str → Option β) (render : β → Str) (P : β → Padded) (chs : List (List β))
    (rest : List Str) (hne : ∀ ch ∈ chs, ch ≠ [])
    (h : ∀ v ∈ chs.flatten, (P v).render = render v ∧ (P v).OK ∧ (P v).pre ≠ [] ∧ conv (P v).tok = some v) :
    readTok conv chs.flatten.length [] (chs.map (dataLine render) ++ rest) = .ok (chs.flatten, rest) := by
  induction chs with
  | nil => rfl
  | cons ch chs ih =>
    obtain ⟨hne1, hne'⟩ := List.forall_mem_cons.mp hne
    have h1 : ∀ v ∈ ch, _ := fun v hv => h v (List.mem_append_left _ hv)
    have hw := readTok_words conv (fun v => (P v).tok) (ih hne' fun v hv => h v (List.mem_append_right _ hv)) ch
      fun v hv => (h1 v hv).2.2.2
    have hsp := dataLine_words render P ch fun v hv => ⟨(h1 v hv).1, (h1 v hv).2.1, (h1 v hv).2.2.1⟩
    obtain ⟨v, vs, rfl⟩ := List.exists_cons_of_ne_nil hne1
    rw [List.flatten_cons, List.length_append, List.length_cons, Nat.add_right_comm, List.map_cons, List.cons_append,
      readTok_line _ _ _ _ (by rw [hsp]; exact List.cons_ne_nil _ _), hsp, ← Nat.add_right_comm]
    exact hw

theorem pyInt_tok (i : Int) : pyInt (intToDec i) = some i := pyInt_intToDec_self i

theorem okLabel_spec {L : Layout} {s : Str} (h : okLabel L s = true) : Trimmed s ∧ s.length ≤ L.labelW := by
  simp only [okLabel, Bool.and_eq_true, decide_eq_true_eq] at h
  exact ⟨h.1.1, h.1.2⟩

theorem head_label (L : Layout) (hL : LayoutOK L) (label : Str) (ty : Char) (tl : Str) (hl : okLabel L label = true) :
    strip (slice 0 L.reader.cut (head L label ty ++ tl)) = label ∧
    sliceFrom L.reader.cut (head L label ty ++ tl) = [ty] ++ tl := by
  obtain ⟨ht, hlen⟩ := okLabel_spec hl
  have hcut : L.reader.cut = L.labelW + L.gap := hL.1
  have hx : (ljust L.labelW label ++ spaces L.gap).length = L.reader.cut := by
    rw [List.length_append, length_ljust _ _ hlen, length_spaces, hcut]
  have e : head L label ty ++ tl = (ljust L.labelW label ++ spaces L.gap) ++ ([ty] ++ tl) := by simp [head]
  rw [e]
  refine ⟨?_, sliceFrom_append _ _ _ hx⟩
  rw [slice_zero _ _ _ hx]
  exact (strip_append_allWs _ _ (allWs_spaces _)).trans (strip_ljust _ ht)

theorem loadField_int (L : Layout) (hL : LayoutOK L) (keep : Str → Bool) (label : Str) (i : Int) (rest : List Str)
    (hl : okLabel L label = true) (hk : keep label = true) :
    loadField L.reader keep (scalarILine L label i :: rest) = .ok ((label, .int i), rest) := by
  obtain ⟨h1, h2⟩ := head_label L hL label 'I' (spaces L.padS ++ (fmtInt L.intW i ++ ['\n'])) hl
  have hw : splitWs (['I'] ++ (spaces L.padS ++ (fmtInt L.intW i ++ ['\n']))) = [['I'], intToDec i] := by
    rw [← render_intP]; exact words2 'I' (by decide) _ (allWs_spaces _) (spaces_ne_nil hL.2.1) _ (intP_ok _ _)
  unfold loadField scalarILine
  simp only [h1, h2, hw, hk]
  simp [tI, tR, pyInt_tok]

theorem loadField_real (L : Layout) (hL : LayoutOK L) (keep : Str → Bool) (label : Str) (x : Sci) (rest : List Str)
    (hl : okLabel L label = true) (hk : keep label = true) (hm : x.man < 10 ^ (L.sD + 1)) :
    loadField L.reader keep (scalarRLine L label x :: rest) = .ok ((label, .real x), rest) := by
  obtain ⟨h1, h2⟩ := head_label L hL label 'R' (spaces L.padS ++ (fmtSci true true L.sW L.sD x ++ ['\n'])) hl
  have hw : splitWs (['R'] ++ (spaces L.padS ++ (fmtSci true true L.sW L.sD x ++ ['\n'])))
      = [['R'], sciCoreC false 'E' L.sD x] := by
    rw [← render_sciP]; exact words2 'R' (by decide) _ (allWs_spaces _) (spaces_ne_nil hL.2.1) _ (sciP_ok _ _ _ _ _)
  unfold loadField scalarRLine
  simp only [h1, h2, hw, hk]
  simp [tI, tR, Layout.reader, pySci_sciCoreC_self 'E' (Or.inl rfl) L.sD x hL.2.2.2.2.2.1 hm]

theorem arrayHead_parts (L : Layout) (hL : LayoutOK L) (label : Str) (ty : Char) (hty : isWs ty = false) (n : Nat)
    (hn : n < 10 ^ (L.intW - 1)) (hl : okLabel L label = true) :
    strip (slice 0 L.reader.cut (arrayHead L label ty n)) = label ∧
    splitWs (sliceFrom L.reader.cut (arrayHead L label ty n)) = [[ty], nEq, natToDec n] := by
  obtain ⟨h1, h2⟩ := head_label L hL label ty (spaces L.padA ++ (nEq ++ (fmtInt L.intW n ++ ['\n']))) hl
  refine ⟨h1, ?_⟩
  have hlen : (intToDec (n : Int)).length < L.intW := by
    have := length_natToDec_le n (L.intW - 1) hn (by have := hL.2.2.2.2.2.2.2.1; omega)
    exact Nat.lt_of_le_of_lt this (by have := hL.2.2.2.2.2.2.2.1; omega)
  unfold arrayHead
  rw [h2, ← render_intP]
  exact words3 ty hty _ (allWs_spaces _) (spaces_ne_nil hL.2.2.1) _ (intP_ok _ _) (intP_pre_ne_nil hlen)

theorem okInt_spec {L : Layout} {i : Int} (h : okInt L i = true) :
    (intToDec i).length < L.intW ∧ pyInt64 (intToDec i) = some i := by
  simp only [okInt, Bool.and_eq_true, decide_eq_true_eq] at h
  exact ⟨h.1.1, by simp [pyInt64, pyInt_tok, h.1.2, h.2]⟩

theorem okSci_spec {w d : Nat} {x : Sci} (h : okSci w d x = true) :
    x.man < 10 ^ (d + 1) ∧ (sciCore true true d x).length < w := by
  simpa [okSci] using h

theorem loadField_ints (L : Layout) (hL : LayoutOK L) (keep : Str → Bool) (label : Str) (l : List Int) (rest : List Str)
    (hl : okLabel L label = true) (hk : keep label = true) (hne : l ≠ []) (hv : okValue L (.ints l) = true) :
    loadField L.reader keep (dumpField L (label, .ints l) ++ rest) = .ok ((label, .ints l), rest) := by
  simp only [okValue, Bool.and_eq_true, List.all_eq_true, decide_eq_true_eq] at hv
  obtain ⟨hok, hn⟩ := hv
  obtain ⟨h1, h2⟩ := arrayHead_parts L hL label 'I' (by decide) l.length hn hl
  obtain ⟨hflat, hch⟩ := chunks_spec L.perI hL.2.2.2.1 l hne
  have hread := readTok_dataLines pyInt64 (fmtInt L.intW) (intP L.intW) (chunks L.perI l) rest (fun ch hc => (hch ch hc).1)
    (by rw [hflat]; exact fun v hv => ⟨render_intP _ _, intP_ok _ _, intP_pre_ne_nil (okInt_spec (hok v hv)).1,
      (okInt_spec (hok v hv)).2⟩)
  rw [hflat] at hread
  rw [dumpField, List.isEmpty_eq_false_iff.mpr hne]
  simp only [Bool.false_eq_true, if_false, List.cons_append, loadField, h1, h2, hk]
  simp [tI, tR, pyInt_natToDec l.length, hread]

theorem loadField_reals (L : Layout) (hL : LayoutOK L) (keep : Str → Bool) (label : Str) (l : List Sci) (rest : List Str)
    (hl : okLabel L label = true) (hk : keep label = true) (hne : l ≠ []) (hv : okValue L (.reals l) = true) :
    loadField L.reader keep (dumpField L (label, .reals l) ++ rest) = .ok ((label, .reals l), rest) := by
  simp only [okValue, Bool.and_eq_true, List.all_eq_true, decide_eq_true_eq] at hv
  obtain ⟨hok, hn⟩ := hv
  obtain ⟨h1, h2⟩ := arrayHead_parts L hL label 'R' (by decide) l.length hn hl
  obtain ⟨hflat, hch⟩ := chunks_spec L.perR hL.2.2.2.2.1 l hne
  have hread := readTok_dataLines (pySci L.aD) (fmtSci true true L.aW L.aD) (sciP true true L.aW L.aD) (chunks L.perR l) rest
    (fun ch hc => (hch ch hc).1)
    (by rw [hflat]; exact fun v hv => ⟨render_sciP _ _ _ _ _, sciP_ok _ _ _ _ _, sciP_pre_ne_nil (okSci_spec (hok v hv)).2,
      pySci_sciCoreC_self 'E' (Or.inl rfl) L.aD v hL.2.2.2.2.2.2.1 (okSci_spec (hok v hv)).1⟩)
  rw [hflat] at hread
  rw [dumpField, List.isEmpty_eq_false_iff.mpr hne]
  simp only [Bool.false_eq_true, if_false, List.cons_append, loadField, h1, h2, hk]
  simp [tI, tR, Layout.reader, pyInt_natToDec l.length, hread]

/-- an empty array is not written at all; everything else takes at least one line -/
theorem dumpField_eq_nil_iff (L : Layout) (f : Fld) : dumpField L f = [] ↔ nonEmpty f = false := by
  obtain ⟨label, v⟩ := f
  cases v <;> simp [dumpField, nonEmpty]

theorem flatMap_dumpField_filter (L : Layout) (fs : List Fld) :
    fs.flatMap (dumpField L) = (fs.filter nonEmpty).flatMap (dumpField L) := by
  induction fs with
  | nil => rfl
  | cons f fs ih =>
    by_cases h : nonEmpty f = true
    · rw [List.filter_cons_of_pos h, List.flatMap_cons, List.flatMap_cons, ih]
    · rw [List.filter_cons_of_neg h, List.flatMap_cons, ih, (dumpField_eq_nil_iff L f).mpr (by simpa using h), List.nil_append]

theorem loadField_dumpField (L : Layout) (hL : LayoutOK L) (keep : Str → Bool) (f : Fld) (rest : List Str)
    (hl : okLabel L f.1 = true) (hv : okValue L f.2 = true) (hk : keep f.1 = true) (hne : nonEmpty f = true) :
    loadField L.reader keep (dumpField L f ++ rest) = .ok (f, rest) := by
  obtain ⟨label, v⟩ := f
  cases v with
  | int i => exact loadField_int L hL keep label i rest hl hk
  | real x => exact loadField_real L hL keep label x rest hl hk (by simpa [okValue] using hv)
  | ints l => exact loadField_ints L hL keep label l rest hl hk (by simpa [nonEmpty] using hne) hv
  | reals l => exact loadField_reals L hL keep label l rest hl hk (by simpa [nonEmpty] using hne) hv

theorem dictSet_new (d : List Fld) (f : Fld) (h : f.1 ∉ d.map (·.1)) : dictSet d f = d ++ [f] := by
  unfold dictSet
  have : d.any (fun e => e.1 == f.1) = false := by
    rw [List.any_eq_false]; intro e he hc
    exact h (List.mem_map.mpr ⟨e, he, by simpa using hc⟩)
  simp [this]

theorem loadFieldsF_dump (L : Layout) (hL : LayoutOK L) (keep : Str → Bool) : ∀ (fs acc : List Fld) (fuel : Nat),
    fs.length < fuel →
    (∀ f ∈ fs, okLabel L f.1 = true ∧ okValue L f.2 = true ∧ keep f.1 = true ∧ nonEmpty f = true) →
    (acc.map (·.1) ++ fs.map (·.1)).Nodup →
    loadFieldsF L.reader keep fuel acc (fs.flatMap (dumpField L)) = .ok (acc ++ fs) := by
  intro fs; induction fs with
  | nil =>
    intro acc fuel hf _ _
    obtain ⟨g, rfl⟩ : ∃ g, fuel = g + 1 := ⟨fuel - 1, by simp at hf; omega⟩
    simp [loadFieldsF, loadField]
  | cons f fs ih =>
    intro acc fuel hf hok hnd
    obtain ⟨⟨h1, h2, h3, hne⟩, hfs⟩ := List.forall_mem_cons.mp hok
    obtain ⟨g, rfl⟩ : ∃ g, fuel = g + 1 := ⟨fuel - 1, by omega⟩
    have hnew : f.1 ∉ acc.map (·.1) := fun hc => (List.nodup_append.mp hnd).2.2 _ hc _ (by simp) rfl
    simp only [List.flatMap_cons, loadFieldsF, loadField_dumpField L hL keep f _ h1 h2 h3 hne, dictSet_new acc f hnew]
    rw [ih (acc ++ [f]) g (by simpa using hf) hfs (by simpa [List.append_assoc] using hnd), List.append_assoc]
    rfl

theorem lines_ge (L : Layout) : ∀ fs : List Fld, (∀ f ∈ fs, nonEmpty f = true) →
    fs.length ≤ (fs.flatMap (dumpField L)).length := by
  intro fs; induction fs with
  | nil => intro _; exact Nat.zero_le _
  | cons f fs ih =>
    intro h
    obtain ⟨hf, hfs⟩ := List.forall_mem_cons.mp h
    have : 0 < (dumpField L f).length :=
      List.length_pos_iff.mpr fun e => by rw [(dumpField_eq_nil_iff L f).mp e] at hf; cases hf
    rw [List.flatMap_cons, List.length_append, List.length_cons]
    have := ih hfs; omega

theorem visChars_eq_range : visChars = (List.range 94).map fun i => Char.ofNat (i + 33) := by rfl

/-- the visible characters are the code points `'!'` … `'~'` -/
theorem mem_visChars {c : Char} : c ∈ visChars ↔ 33 ≤ c.toNat ∧ c.toNat ≤ 126 := by
  rw [visChars_eq_range, List.mem_map]
  constructor
  · rintro ⟨i, hi, rfl⟩
    have := List.mem_range.mp hi
    rw [toNat_ofNat (by omega)]; omega
  · intro h
    exact ⟨c.toNat - 33, List.mem_range.mpr (by omega), by rw [Nat.sub_add_cancel h.1, Char.ofNat_toNat]⟩

theorem vis_noWs : ∀ c ∈ visChars, isWs c = false := by
  intro c hc
  have h := mem_visChars.mp hc
  cases hw : isWs c with
  | false => rfl
  | true => have := isWs_toNat hw; omega
theorem vis_upper : ∀ c ∈ visChars, upperC c ∈ visChars := by
  intro c hc
  have h := mem_visChars.mp hc
  rw [mem_visChars, toNat_upperC]
  split <;> omega
theorem vis_lower : ∀ c ∈ visChars, lowerC c ∈ visChars := by
  intro c hc
  have h := mem_visChars.mp hc
  rw [mem_visChars, toNat_lowerC]
  split <;> omega
theorem vis_ulu : ∀ c ∈ visChars, upperC (lowerC (upperC c)) = upperC c :=
  fun c _ => upperC_lowerC_upperC c

def AllVis (s : Str) : Prop := ∀ c ∈ s, c ∈ visChars

theorem okWord_spec {w : Nat} {s : Str} (h : okWord w s = true) : AllVis s ∧ s.length < w := by
  simp only [okWord, Bool.and_eq_true, List.all_eq_true, decide_eq_true_eq] at h
  refine ⟨fun c hc => ?_, h.2⟩
  have := h.1 c hc
  simpa [isVis] using this

theorem okWord_of {w : Nat} {s : Str} (h1 : AllVis s) (h2 : s.length < w) : okWord w s = true := by
  simp only [okWord, Bool.and_eq_true, List.all_eq_true, decide_eq_true_eq]
  exact ⟨fun c hc => by simpa [isVis] using h1 c hc, h2⟩

theorem AllVis.noWs {s : Str} (h : AllVis s) : NoWs s := fun c hc => vis_noWs c (h c hc)
theorem AllVis.map {s : Str} (h : AllVis s) {f : Char → Char} (hf : ∀ c ∈ visChars, f c ∈ visChars) : AllVis (s.map f) := by
  intro c hc
  obtain ⟨a, ha, rfl⟩ := List.mem_map.mp hc
  exact hf a (h a ha)
theorem AllVis.upper {s : Str} (h : AllVis s) : AllVis (upper s) := h.map vis_upper
theorem AllVis.lower {s : Str} (h : AllVis s) : AllVis (lower s) := h.map vis_lower
theorem upper_lower_upper {s : Str} (h : AllVis s) : upper (lower (upper s)) = upper s := by
  simp only [Chars.upper, Chars.lower, List.map_map, Function.comp_def]
  exact List.map_congr_left fun c hc => vis_ulu c (h c hc)

theorem lulu {s : Str} (h : AllVis s) : lower (upper (lower (upper s))) = lower (upper s) :=
  congrArg lower (upper_lower_upper h)

theorem length_upper (s : Str) : (upper s).length = s.length := by simp [Chars.upper]
theorem length_lower (s : Str) : (lower s).length = s.length := by simp [Chars.lower]

theorem word_upper {w : Nat} {s : Str} (h : AllVis s ∧ s.length < w ∧ s ≠ []) :
    AllVis (upper s) ∧ (upper s).length < w ∧ upper s ≠ [] :=
  ⟨h.1.upper, by rw [length_upper]; exact h.2.1, fun e => h.2.2 (List.map_eq_nil_iff.mp e)⟩

theorem header_words (L : Layout) (c l b : Str) (hc : AllVis c ∧ c.length < L.cmdW ∧ c ≠ [])
    (hl : AllVis l ∧ l.length < L.lotW ∧ l ≠ []) (hb : AllVis b ∧ b ≠ []) :
    splitWs (ljust L.cmdW c ++ (ljust L.lotW l ++ (rjust L.basW b ++ ['\n']))) = [c, l, b] := by
  have e : ljust L.cmdW c ++ (ljust L.lotW l ++ (rjust L.basW b ++ ['\n']))
      = ([Padded.mk [] c [], Padded.mk (spaces (L.cmdW - c.length)) l [],
          Padded.mk (spaces (L.lotW - l.length) ++ spaces (L.basW - b.length)) b []].map Padded.render).flatten ++ ['\n'] := by
    simp [Padded.render, ljust, rjust]
  rw [e, splitWs_line _ ?_ ?_]
  · rfl
  · exact List.forall_mem_cons.mpr ⟨⟨allWs_nil, hc.1.noWs, hc.2.2, allWs_nil⟩, List.forall_mem_cons.mpr
      ⟨⟨allWs_spaces _, hl.1.noWs, hl.2.2, allWs_nil⟩, List.forall_mem_singleton.mpr
        ⟨allWs_append (allWs_spaces _) (allWs_spaces _), hb.1.noWs, hb.2, allWs_nil⟩⟩⟩
  · exact List.forall_mem_cons.mpr ⟨spaces_ne_nil (by omega), List.forall_mem_singleton.mpr
      fun e2 => spaces_ne_nil (by omega) (List.append_eq_nil_iff.mp e2).1⟩

theorem layout_absent {L : Layout} (hL : LayoutOK L) :
    AllVis L.absent ∧ L.absent.length < min L.cmdW (min L.lotW L.basW) ∧ L.absent ≠ [] :=
  ⟨(okWord_spec hL.2.2.2.2.2.2.2.2.2.2.1).1, (okWord_spec hL.2.2.2.2.2.2.2.2.2.2.1).2, hL.2.2.2.2.2.2.2.2.2.2.2⟩

theorem orNA_spec (L : Layout) (hL : LayoutOK L) (w : Nat) (hw : min L.cmdW (min L.lotW L.basW) ≤ w) (s : Option Str)
    (h : optWord w s = true) :
    AllVis (orNA L s) ∧ (orNA L s).length < w ∧ orNA L s ≠ [] := by
  obtain ⟨a1, a2, a3⟩ := layout_absent hL
  cases s with
  | none => exact ⟨a1, by simp only [orNA]; omega, a3⟩
  | some r =>
    simp only [orNA]
    by_cases he : r.isEmpty = true
    · simp only [he, if_true]; exact ⟨a1, by omega, a3⟩
    · simp only [he, if_false, Bool.false_eq_true]
      obtain ⟨h1, h2⟩ := okWord_spec h
      exact ⟨h1, h2, by intro e; subst e; simp at he⟩

theorem dom_words {L : Layout} (hL : LayoutOK L) {o : Obj} (h : Dom L o) :
    (AllVis (orNA L o.lot) ∧ (orNA L o.lot).length < L.lotW ∧ orNA L o.lot ≠ []) ∧
    (AllVis (orNA L o.basis) ∧ (orNA L o.basis).length < L.basW ∧ orNA L o.basis ≠ []) :=
  ⟨orNA_spec L hL L.lotW (Nat.le_trans (Nat.min_le_right _ _) (Nat.min_le_left _ _)) o.lot h.2.2.1,
    orNA_spec L hL L.basW (Nat.le_trans (Nat.min_le_right _ _) (Nat.min_le_right _ _)) o.basis h.2.2.2.1⟩

theorem commandOf_spec (L : Layout) (hL : LayoutOK L) (R : RunTypes) (hR : RunTypesOK L R) (rt : Option Str)
    (h : optWord L.cmdW rt = true) :
    AllVis (commandOf L R rt) ∧ (commandOf L R rt).length < L.cmdW ∧ commandOf L R rt ≠ [] := by
  have hs := orNA_spec L hL L.cmdW (Nat.min_le_left _ _) rt h
  have e : commandOf L R rt = (lookupK R.writer (orNA L rt)).getD (upper (orNA L rt)) := by
    cases rt <;> rfl
  rw [e]
  cases hl : lookupK R.writer (orNA L rt) with
  | none =>
    simp only [Option.getD]
    exact word_upper hs
  | some v =>
    obtain ⟨h1, h2⟩ := hR.1 _ (lookupK_key _ _ _ hl)
    simp only [Option.getD]
    exact ⟨(okWord_spec h1).1, (okWord_spec h1).2, h2⟩

theorem okTitle_spec {t : Str} (h : okTitle t = true) : Trimmed t := (trimmed_one_line h).1

theorem okTitle_outTitle (L : Layout) (hL : LayoutOK L) (t : Str) (h : okTitle t = true) : okTitle (outTitle L t) = true :=
  orDefault_ok (P := fun t => okTitle t = true) hL.2.2.2.2.2.2.2.2.1 h

/-- C02 at the field layer: a whole file (two header lines and any list of fields) is read back as written -/
theorem load_dump (L : Layout) (hL : LayoutOK L) (R : RunTypes) (hR : RunTypesOK L R) (keep : Str → Bool) (o : Obj) (h : Dom L o)
    (hk : ∀ f ∈ o.fields, keep f.1 = true) : load L.reader R keep (dump L R o) = .ok (norm L R o) := by
  obtain ⟨hl, hb⟩ := dom_words hL h
  obtain ⟨ht, hrt, _, _, hf, hnd⟩ := h
  have hc := commandOf_spec L hL R hR o.runType hrt
  have hw := header_words L (commandOf L R o.runType) (upper (orNA L o.lot)) (upper (orNA L o.basis)) hc
    (word_upper hl) ⟨(word_upper hb).1, (word_upper hb).2.2⟩
  have htitle : strip (ljust L.titleW (outTitle L o.title) ++ ['\n']) = outTitle L o.title :=
    (strip_append_allWs _ _ allWs_nl).trans (strip_ljust _ (okTitle_spec (okTitle_outTitle L hL _ ht)))
  have hfields := loadFieldsF_dump L hL keep (o.fields.filter nonEmpty) [] ((o.fields.flatMap (dumpField L)).length + 1)
    (by rw [flatMap_dumpField_filter]; exact Nat.lt_succ_of_le (lines_ge L _ fun f hf' => (List.mem_filter.mp hf').2))
    (fun f hf' => have hm := (List.mem_filter.mp hf').1; ⟨(hf f hm).1, (hf f hm).2, hk f hm, (List.mem_filter.mp hf').2⟩)
    (by simpa using hnd.sublist (List.filter_sublist.map _))
  rw [← flatMap_dumpField_filter] at hfields
  unfold load dump headerLines
  simp only [List.cons_append, List.nil_append, hw, htitle, hfields]
  simp [norm]

theorem outTitle_idem (L : Layout) (hL : LayoutOK L) (t : Str) : outTitle L (outTitle L t) = outTitle L t :=
  orDefault_idem hL.2.2.2.2.2.2.2.2.2.1 t

theorem orNA_some_ne (L : Layout) (s : Str) (h : s ≠ []) : orNA L (some s) = s := by
  cases s with
  | nil => exact absurd rfl h
  | cons _ _ => rfl

theorem lu_ne {s : Str} (h : s ≠ []) : lower (upper s) ≠ [] :=
  fun e => h (List.map_eq_nil_iff.mp (List.map_eq_nil_iff.mp e))

theorem runType_idem (L : Layout) (R : RunTypes) (hR : RunTypesOK L R) (rt : Option Str) :
    lookupK R.reader (commandOf L R (lookupK R.reader (commandOf L R rt))) = lookupK R.reader (commandOf L R rt) := by
  cases h : lookupK R.reader (commandOf L R rt) with
  | none => exact hR.2.1
  | some k =>
    exact (hR.2.2 _ (lookupK_key _ _ _ h)).1

/-- C15 at the field layer: what a reload returns, written and reloaded, is returned again -/
theorem norm_idem (L : Layout) (hL : LayoutOK L) (R : RunTypes) (hR : RunTypesOK L R) (o : Obj) (h : Dom L o) :
    norm L R (norm L R o).obj = norm L R o := by
  obtain ⟨hl, hb⟩ := dom_words hL h
  simp only [norm, Loaded.obj, outTitle_idem L hL, runType_idem L R hR, orNA_some_ne L _ (lu_ne hl.2.2),
    orNA_some_ne L _ (lu_ne hb.2.2), lulu hl.1, lulu hb.1, List.filter_filter, Bool.and_self]

theorem dom_norm (L : Layout) (hL : LayoutOK L) (R : RunTypes) (hR : RunTypesOK L R) (o : Obj) (h : Dom L o) :
    Dom L (norm L R o).obj := by
  obtain ⟨hl, hb⟩ := dom_words hL h
  obtain ⟨ht, hrt, _, _, hf, hnd⟩ := h
  refine ⟨okTitle_outTitle L hL _ ht, ?_, ?_, ?_, ?_, ?_⟩
  · simp only [norm, Loaded.obj]
    cases hk : lookupK R.reader (commandOf L R o.runType) with
    | none => rfl
    | some k =>
      exact (hR.2.2 _ (lookupK_key _ _ _ hk)).2
  · exact okWord_of hl.1.upper.lower (by simp only [norm]; rw [length_lower, length_upper]; exact hl.2.1)
  · exact okWord_of hb.1.upper.lower (by rw [length_lower, length_upper]; exact hb.2.1)
  · intro f hf'
    exact hf f (List.mem_filter.mp hf').1
  · exact List.Pairwise.sublist ((List.filter_sublist).map _) hnd

end Iodata.Fmt.Fchk
