/- POSCAR structure layer: the grouping is a stable permutation; fractional coordinates invert exactly. -/
import Iodata.Model.Fmt.Poscar
import Mathlib.Tactic.Ring
import Mathlib.Data.List.Perm.Basic
namespace Iodata.Fmt.Poscar

theorem mem_uniqDesc (zs : List Nat) (z : Nat) : z ∈ uniqDesc zs ↔ z ∈ zs := by
  unfold uniqDesc
  simp only [List.mem_filter, List.mem_reverse, List.mem_range, List.contains_iff_mem]
  refine ⟨fun h => h.2, fun h => ⟨?_, h⟩⟩
  have : ∀ (l : List Nat) (acc : Nat), z ∈ l ∨ z ≤ acc → z ≤ l.foldl max acc := by
    intro l
    induction l with
    | nil => exact fun acc h => h.elim (fun hm => by cases hm) id
    | cons a l ih =>
      intro acc h
      refine ih _ ?_
      rcases h with h | h
      · exact (List.mem_cons.mp h).elim (fun e => Or.inr (e ▸ Nat.le_max_right acc z)) Or.inl
      · exact Or.inr (Nat.le_trans h (Nat.le_max_left acc a))
  have := this zs 0 (Or.inl h)
  omega

theorem uniqDesc_sorted (zs : List Nat) : (uniqDesc zs).Pairwise (· > ·) := by
  unfold uniqDesc
  apply List.Pairwise.filter
  rw [List.pairwise_reverse]
  exact List.pairwise_lt_range

theorem uniqDesc_nodup (zs : List Nat) : (uniqDesc zs).Nodup :=
  (uniqDesc_sorted zs).imp (fun h => Nat.ne_of_gt h)

theorem group_perm_aux {α} (key : α → Nat) : ∀ (ks : List Nat) (atoms : List α), ks.Nodup → (∀ a ∈ atoms, key a ∈ ks) →
    (ks.flatMap fun z => atoms.filter fun a => key a == z).Perm atoms := by
  intro ks; induction ks with
  | nil =>
    intro atoms _ h
    cases atoms with
    | nil => exact List.Perm.refl _
    | cons a as => exact absurd (h a List.mem_cons_self) (by simp)
  | cons z ks ih =>
    intro atoms hnd h
    obtain ⟨hz, hnd'⟩ := List.nodup_cons.mp hnd
    simp only [List.flatMap_cons]
    have hrest : (ks.flatMap fun z' => atoms.filter fun a => key a == z')
        = ks.flatMap fun z' => (atoms.filter fun a => !(key a == z)).filter fun a => key a == z' := by
      apply List.flatMap_congr
      intro z' hz'
      rw [List.filter_filter]
      apply List.filter_congr
      intro a _
      by_cases e : key a = z'
      · have : key a ≠ z := fun e2 => hz (by rw [← e2, e]; exact hz')
        simp [e]
        intro e3; exact this (e.trans e3)
      · simp [e]
    rw [hrest]
    have h2 := ih (atoms.filter fun a => !(key a == z)) hnd' (by
      intro a ha
      obtain ⟨ha1, ha2⟩ := List.mem_filter.mp ha
      have := h a ha1
      rcases List.mem_cons.mp this with e | e
      · simp [e] at ha2
      · exact e)
    exact (List.Perm.append_left _ h2).trans (List.filter_append_perm _ atoms)

/-- C02: the atoms written (and read back) are the atoms of the object, each exactly once -/
theorem group_perm {α} (key : α → Nat) (atoms : List α) : (group key atoms).Perm atoms :=
  group_perm_aux key _ atoms (uniqDesc_nodup _) (fun a ha => (mem_uniqDesc _ _).mpr (List.mem_map.mpr ⟨a, ha, rfl⟩))

theorem group_filter_aux {α} (key : α → Nat) (atoms : List α) (z : Nat) : ∀ (ks : List Nat), ks.Nodup →
    (ks.flatMap fun z' => atoms.filter fun a => key a == z').filter (fun a => key a == z)
      = if z ∈ ks then atoms.filter (fun a => key a == z) else [] := by
  intro ks; induction ks with
  | nil => intro _; rfl
  | cons k ks ih =>
    intro hnd
    obtain ⟨hk, hnd'⟩ := List.nodup_cons.mp hnd
    simp only [List.flatMap_cons, List.filter_append, List.filter_filter, ih hnd']
    by_cases e : z = k
    · subst e
      have h1 : atoms.filter (fun a => (key a == z && key a == z)) = atoms.filter (fun a => key a == z) := by
        apply List.filter_congr; intro a _; simp
      simp [hk]
    · have h1 : atoms.filter (fun a => (key a == z && key a == k)) = [] := by
        rw [List.filter_eq_nil_iff]
        intro a _
        simp only [Bool.and_eq_true, beq_iff_eq, not_and]
        intro e1 e2; exact e (e1.symm.trans e2)
      simp [h1, e]

/-- within an element the file order is kept (the documented re-ordering is a stable one) -/
theorem group_stable {α} (key : α → Nat) (atoms : List α) (z : Nat) :
    (group key atoms).filter (fun a => key a == z) = atoms.filter (fun a => key a == z) := by
  unfold group
  rw [group_filter_aux key atoms z _ (uniqDesc_nodup _)]
  by_cases hz : z ∈ uniqDesc (atoms.map key)
  · simp [hz]
  · simp only [hz, if_false]
    symm
    rw [List.filter_eq_nil_iff]
    intro a ha
    simp only [beq_iff_eq]
    intro e
    exact hz ((mem_uniqDesc _ _).mpr (List.mem_map.mpr ⟨a, ha, e⟩))

/-- the elements appear heaviest first -/
theorem group_keys {α} (key : α → Nat) (atoms : List α) : (group key atoms).map key = expand (counts key atoms) := by
  unfold group counts expand
  rw [List.map_flatMap, List.flatMap_map]
  apply List.flatMap_congr
  intro z _
  simp only
  rw [List.eq_replicate_iff]
  refine ⟨by simp, ?_⟩
  intro b hb
  obtain ⟨a, ha, rfl⟩ := List.mem_map.mp hb
  simpa using (List.mem_filter.mp ha).2

/-- C15: grouping a grouped list changes nothing -/
theorem group_idem {α} (key : α → Nat) (atoms : List α) : group key (group key atoms) = group key atoms := by
  have hk : uniqDesc ((group key atoms).map key) = uniqDesc (atoms.map key) := by
    have h1 := uniqDesc_sorted ((group key atoms).map key)
    have h2 := uniqDesc_sorted (atoms.map key)
    have n1 : (uniqDesc ((group key atoms).map key)).Nodup := uniqDesc_nodup _
    have n2 : (uniqDesc (atoms.map key)).Nodup := uniqDesc_nodup _
    have p : (uniqDesc ((group key atoms).map key)).Perm (uniqDesc (atoms.map key)) := by
      apply (List.perm_ext_iff_of_nodup n1 n2).mpr
      intro z
      rw [mem_uniqDesc, mem_uniqDesc]
      exact ((group_perm key atoms).map key).mem_iff
    exact List.Perm.eq_of_pairwise (fun a b _ _ hab hba => absurd hab (by omega)) h1 h2 p
  have e : group key (group key atoms)
      = (uniqDesc ((group key atoms).map key)).flatMap fun z => (group key atoms).filter fun a => key a == z := rfl
  rw [e, hk]
  conv => rhs; unfold group
  apply List.flatMap_congr
  intro z _
  exact group_stable key atoms z

theorem mul_det_inv (cell : M3) (h : det cell ≠ 0) (u : ℚ) : u * (det cell * (det cell)⁻¹) = u := by
  rw [mul_inv_cancel₀ h, mul_one]

/- `adj(M)·M = M·adj(M) = det(M)·1`: with `det⁻¹` as an atom, each component of the two products below is
`u * (det * det⁻¹)` as a polynomial -/
theorem toCart_toFrac (cell : M3) (h : det cell ≠ 0) (r : V3) : toCart cell (toFrac cell r) = r := by
  have key := mul_det_inv cell h
  obtain ⟨⟨a, b, c⟩, ⟨d, e, f⟩, ⟨g, hh, i⟩⟩ := cell
  obtain ⟨x, y, z⟩ := r
  simp only [toCart, toFrac, vecMat, inv, det, div_eq_mul_inv] at key ⊢
  refine Prod.ext ?_ (Prod.ext ?_ ?_) <;> exact Eq.trans (by ring) (key _)

theorem toFrac_toCart (cell : M3) (h : det cell ≠ 0) (s : V3) : toFrac cell (toCart cell s) = s := by
  have key := mul_det_inv cell h
  obtain ⟨⟨a, b, c⟩, ⟨d, e, f⟩, ⟨g, hh, i⟩⟩ := cell
  obtain ⟨x, y, z⟩ := s
  simp only [toCart, toFrac, vecMat, inv, det, div_eq_mul_inv] at key ⊢
  refine Prod.ext ?_ (Prod.ext ?_ ?_) <;> exact Eq.trans (by ring) (key _)

end Iodata.Fmt.Poscar
