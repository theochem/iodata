/- VASP grids: header lines, the value stream cut into lines of any length, and the index order of the
triple loop (x fastest), for every grid shape. -/
import Iodata.Lemmas.FmtR.Num
import Iodata.Lemmas.FmtR.Arr
import Iodata.Model.FmtR.Vasp
namespace Iodata.FmtR.Vasp
open Iodata.Chars Iodata.Decimal Iodata.Fmt Iodata.FmtR

theorem splitWs_fieldsLine (fs : List (Nat × Str)) (h : ∀ f ∈ fs, okTok f.1 f.2) :
    splitWs (fieldsLine fs) = fs.map (·.2) :=
  splitWs_rjust_fields fs (fun f hf => ⟨(h f hf).1, (h f hf).2.1⟩) (fun f hf => (h f (List.mem_of_mem_tail hf)).2.2)

/-- a line of equally wide columns -/
theorem splitWs_fieldsLine_map {α : Type} (w : Nat) (g : α → Str) (xs : List α) (h : ∀ x ∈ xs, okTok w (g x)) :
    splitWs (fieldsLine (xs.map fun x => (w, g x))) = xs.map g := by
  rw [splitWs_fieldsLine _ (List.forall_mem_map.mpr h), List.map_map]
  rfl

/-- `0 < d`: a negative value is printed without the leading zero (`-.ddd`), so a digit has to follow the point -/
theorem styleOK_stE (d : Nat) (hd : 0 < d) (x : Num) : StyleOK (stE d x) x := styleOK_E d _ x (Or.inr hd)

theorem parseFloats_F (d : Nat) : ∀ r : List Num, (∀ x ∈ r, x.exp = -(d : Int)) →
    parseFloats (r.map fun x => renderNum (stF d) x) = .ok r := by
  intro r; induction r with
  | nil => intro _; rfl
  | cons x r ih =>
    intro h
    simp only [List.map_cons, parseFloats, pyFloat_bare (stF d) x (styleOK_fixed d x (h x List.mem_cons_self)),
      ih (fun y hy => h y (List.mem_cons_of_mem _ hy))]

theorem okTok_natToDec {w n : Nat} (h : (natToDec n).length < w) : okTok w (natToDec n) :=
  ⟨(allDigits_natToDec _).noWs, natToDec_ne_nil _, h⟩

theorem okTok_F {w d : Nat} {x : Num} (h : okF w d x) : okTok w (renderNum (stF d) x) :=
  ⟨renderNum_noWs (stF d) x (styleOK_fixed d x h.1), renderNum_ne_nil _ _, h.2⟩

theorem okTok_numFields {w d : Nat} {r : List Num} (h : okRow w d r) : ∀ f ∈ numFields w d r, okTok f.1 f.2 :=
  List.forall_mem_map.mpr fun x hx => okTok_F (h.2 x hx)

theorem row3_numFields (w d : Nat) (r : List Num) (h : okRow w d r) : row3 ((numFields w d r).map (·.2)) = .ok r := by
  simp only [numFields, List.map_map, Function.comp_def, row3]
  rw [parseFloats_F d r (fun x hx => (h.2 x hx).1)]
  simp [h.1]

theorem row3_fields (w d : Nat) (r : List Num) (h : okRow w d r) :
    row3 (splitWs (fieldsLine (numFields w d r))) = .ok r := by
  rw [splitWs_fieldsLine _ (okTok_numFields h)]
  exact row3_numFields w d r h

theorem parseSyms_render (T : Tables) (S : Spec) : ∀ es : List (Nat × Nat), (∀ e ∈ es, okElem T S e) →
    parseSyms T (es.map fun e => T.sym e.1) = .ok (es.map (·.1)) := by
  intro es; induction es with
  | nil => intro _; rfl
  | cons e es ih =>
    intro h
    simp only [List.map_cons, parseSyms, (h e List.mem_cons_self).2.1, ih (fun y hy => h y (List.mem_cons_of_mem _ hy))]

theorem parseInts_render : ∀ ns : List Nat, parseInts (ns.map natToDec) = .ok (ns.map fun (n : Nat) => (n : Int)) := by
  intro ns; induction ns with
  | nil => rfl
  | cons n ns ih => simp only [List.map_cons, parseInts, pyInt_natToDec, ih]

theorem firstLower_sel : firstLower selLine = 's' := by decide
theorem firstLower_mode (c : Bool) : firstLower (modeLine c) = if c then 'c' else 'd' := by cases c <;> decide

/-- a position line: three `F` numbers, then any flags, which `[:3]` cuts off -/
theorem coordLine_row3 (S : Spec) (m : Model) (r : List Num) (h : okRow S.posW S.posD r)
    (hf : ∀ f ∈ m.flags, okTok S.flagW f) :
    row3 ((splitWs (coordLine S m r)).take 3) = .ok r := by
  unfold coordLine
  rw [splitWs_fieldsLine _ (by
    intro f hfm
    rcases List.mem_append.mp hfm with hfm | hfm
    · exact okTok_numFields h f hfm
    · split at hfm
      · obtain ⟨x, hx, rfl⟩ := List.mem_map.mp hfm; exact hf x hx
      · cases hfm)]
  have hl : ((numFields S.posW S.posD r).map (·.2)).length = 3 := by simp [numFields, h.1]
  rw [List.map_append, List.take_append_of_le_length (by omega), List.take_of_length_le (by omega)]
  exact row3_numFields _ _ r h

theorem loadHeader_spec (L : Layout) (T : Tables) (S : Spec) (m : Model) (h : HeaderDom L T S m) (rest : List Str) :
    loadHeader L T (specHeader T S m ++ rest) = .ok (m.header, rest) := by
  obtain ⟨ht, hs, hc3, hcell, hel, hnat, hco, hfl, hsel, hcart, hcw⟩ := h
  obtain ⟨r0, r1, r2, hce⟩ : ∃ r0 r1 r2, m.cell = [r0, r1, r2] := by
    match hm : m.cell, hc3 with
    | [a, b, c], _ => exact ⟨a, b, c, rfl⟩
  have hr0 := row3_fields S.cellW S.cellD r0 (hcell r0 (by simp [hce]))
  have hr1 := row3_fields S.cellW S.cellD r1 (hcell r1 (by simp [hce]))
  have hr2 := row3_fields S.cellW S.cellD r2 (hcell r2 (by simp [hce]))
  have hscale : pyFloat (strip (fieldsLine [(S.scaleW, renderNum (stF S.scaleD) m.scaling)])) = some m.scaling := by
    have e : fieldsLine [(S.scaleW, renderNum (stF S.scaleD) m.scaling)]
        = spaces (S.scaleW - (renderNum (stF S.scaleD) m.scaling).length) ++ (renderNum (stF S.scaleD) m.scaling ++ ['\n']) := by
      simp [fieldsLine, rjust]
    rw [e, strip_noWs_pad _ _ _ (allWs_spaces _) allWs_nl (okTok_F hs).1]
    exact pyFloat_bare (stF S.scaleD) _ (styleOK_fixed _ _ hs.1)
  have hsyms : parseSyms T (splitWs (fieldsLine (m.elems.map fun e => (S.symW, T.sym e.1)))) = .ok (m.elems.map (·.1)) := by
    rw [splitWs_fieldsLine_map _ _ _ fun e he => (hel e he).1]
    exact parseSyms_render T S m.elems hel
  have hcnt : parseInts (splitWs (fieldsLine (m.elems.map fun e => (S.cntW, natToDec e.2))))
      = .ok (m.elems.map fun e => (e.2 : Int)) := by
    rw [splitWs_fieldsLine_map _ _ _ fun e he => okTok_natToDec (hel e he).2.2]
    have := parseInts_render (m.elems.map (·.2))
    simpa [List.map_map, Function.comp_def] using this
  have hcoords := readN_map (fun l => row3 ((splitWs l).take L.coordWords)) (coordLine S m) id m.coords rest
    (fun r hr => by rw [hcw]; exact coordLine_row3 S m r (hco r hr) hfl)
  rw [List.map_id, hnat] at hcoords
  cases hsl : m.selective <;> cases hca : m.cartesian <;>
    simp only [specHeader, hce, hsl, hca, if_true, Bool.false_eq_true, if_false, List.map_cons, List.map_nil, List.cons_append,
      List.nil_append, loadHeader, hscale, hr0, hr1, hr2, hsyms, hcnt, hsel, hcart, firstLower_sel, firstLower_mode,
      List.contains_cons, List.contains_nil, Char.reduceBEq, Bool.or_false, hcoords,
      show strip (m.title ++ ['\n']) = m.title from strip_ln ht, Model.header]

theorem findShape_spec (S : Spec) (s : Idx3) (rest : List Str)
    (h : (natToDec s.1).length < S.dimW ∧ (natToDec s.2.1).length < S.dimW ∧ (natToDec s.2.2).length < S.dimW) :
    findShape (['\n'] :: dimsLine S s :: rest) = .ok (s, rest) := by
  have hb : splitWs ['\n'] = [] := splitWs_allWs _ allWs_nl
  have hd : splitWs (dimsLine S s) = [natToDec s.1, natToDec s.2.1, natToDec s.2.2] := by
    unfold dimsLine
    rw [splitWs_fieldsLine _ (by
      simp only [List.forall_mem_cons, List.not_mem_nil, false_imp_iff, implies_true, and_true]
      exact ⟨okTok_natToDec h.1, okTok_natToDec h.2.1, okTok_natToDec h.2.2⟩)]
    rfl
  have hi := parseInts_render [s.1, s.2.1, s.2.2]
  simp only [List.map_cons, List.map_nil] at hi
  obtain ⟨a, b, c⟩ := s
  simp only [findShape, hb, parseInts, hd, hi]

/-- words already on the table are consumed first -/
theorem pull_words (d : Nat) (hd : 0 < d) : ∀ (ws : List Num) (n : Nat) (ls : List Str),
    pull (ws.length + n) (ws.map fun x => renderNum (stE d x) x) ls
      = match pull n [] ls with
        | .error e => .error e
        | .ok (vs, r) => .ok (ws ++ vs, r) := by
  intro ws; induction ws with
  | nil =>
    intro n ls
    simp only [List.length_nil, Nat.zero_add, List.map_nil, List.nil_append]
    cases n with
    | zero => simp [pull]
    | succ n => cases h : pull (n + 1) [] ls <;> rfl
  | cons x ws ih =>
    intro n ls
    have e : (x :: ws).length + n = (ws.length + n) + 1 := by simp; omega
    rw [e]
    simp only [List.map_cons, pull, pyFloat_bare _ _ (styleOK_stE d hd x), ih n ls]
    cases pull n [] ls with
    | error e => rfl
    | ok p => rfl

theorem valLine_split (S : Spec) (c : List Num)
    (h : ∀ x ∈ c, (renderNum (stE S.valD x) x).length < S.valW) (hd : 0 < S.valD) :
    splitWs (valLine S c) = c.map fun x => renderNum (stE S.valD x) x :=
  splitWs_fieldsLine_map S.valW _ c fun x hx => ⟨renderNum_noWs _ _ (styleOK_stE _ hd x), renderNum_ne_nil _ _, h x hx⟩

theorem pull_chunks (S : Spec) (hd : 0 < S.valD) (rest : List Str) : ∀ cs : List (List Num),
    (∀ c ∈ cs, c ≠ [] ∧ ∀ x ∈ c, (renderNum (stE S.valD x) x).length < S.valW) →
    pull cs.flatten.length [] (cs.map (valLine S) ++ rest) = .ok (cs.flatten, rest) := by
  intro cs; induction cs with
  | nil => intro _; simp [pull]
  | cons c cs ih =>
    intro h
    obtain ⟨hne, hfit⟩ := h c List.mem_cons_self
    have hrest := ih (fun y hy => h y (List.mem_cons_of_mem _ hy))
    obtain ⟨x, c', rfl⟩ : ∃ x c', c = x :: c' := by
      cases c with
      | nil => exact absurd rfl hne
      | cons x c' => exact ⟨x, c', rfl⟩
    have e : ((x :: c') :: cs).flatten.length = (c'.length + cs.flatten.length) + 1 := by simp <;> omega
    rw [e]
    simp only [List.map_cons, List.cons_append, pull, valLine_split S (x :: c') hfit hd,
      pyFloat_bare _ _ (styleOK_stE S.valD hd x), pull_words S.valD hd c' cs.flatten.length, hrest]
    simp

theorem idxOrder_eq (s : Idx3) (hx : 0 < s.1) (hy : 0 < s.2.1) :
    idxOrder s = (List.range (s.2.2 * (s.2.1 * s.1))).map
      (fun u => (u % (s.2.1 * s.1) % s.1, u % (s.2.1 * s.1) / s.1, u / (s.2.1 * s.1))) := by
  obtain ⟨nx, ny, nz⟩ := s
  simp only at hx hy ⊢
  unfold idxOrder forRange
  simp only
  have inner : ∀ i2 : Nat, (List.range ny).flatMap (fun i1 => (List.range nx).map fun i0 => (i0, i1, i2))
      = (List.range (ny * nx)).map (fun t => (t % nx, t / nx, i2)) := by
    intro i2
    exact flatMap_range_map (fun i1 i0 => (i0, i1, i2)) nx hx ny
  simp only [inner]
  exact flatMap_range_map (fun i2 t => (t % nx, t / nx, i2)) (ny * nx) (Nat.mul_pos hy hx) nz

/-- a two-digit number in radix `n` with leading digit below `m` is below `n·m` -/
theorem radix_lt {n m i j : Nat} (hi : i < n) (hj : j < m) : i + n * j < n * m := by
  have : n * j + n ≤ n * m := by rw [← Nat.mul_succ]; exact Nat.mul_le_mul_left n hj
  omega

/-- mixed-radix digits: `u = i + nx·(j + ny·k)` with `i < nx`, `j < ny` is the only `u` that the loop order sends to `(i, j, k)` -/
theorem unflat_iff (nx ny i j k u : Nat) (hi : i < nx) (hj : j < ny) :
    (u % (ny * nx) % nx = i ∧ u % (ny * nx) / nx = j ∧ u / (ny * nx) = k) ↔ u = i + nx * (j + ny * k) := by
  have hx : 0 < nx := by omega
  have hw : i + nx * j < ny * nx := by rw [Nat.mul_comm ny nx]; exact radix_lt hi hj
  have e : i + nx * (j + ny * k) = (i + nx * j) + ny * nx * k := by
    rw [Nat.mul_add, ← Nat.mul_assoc, Nat.mul_comm nx ny]; omega
  rw [e]
  constructor
  · rintro ⟨h1, h2, h3⟩
    have a := (Nat.div_mod_unique hx).mp ⟨h2, h1⟩
    have b := (Nat.div_mod_unique (Nat.lt_of_le_of_lt (Nat.zero_le _) hw)).mp ⟨h3, rfl⟩
    rw [a.1]; exact b.1.symm
  · rintro rfl
    obtain ⟨h3, hm⟩ := (Nat.div_mod_unique (Nat.lt_of_le_of_lt (Nat.zero_le _) hw)).mpr ⟨rfl, hw⟩
    obtain ⟨h2, h1⟩ := (Nat.div_mod_unique hx).mpr ⟨rfl, hi⟩
    rw [hm]; exact ⟨h1, h2, h3⟩

/-- The loop order is a mixed-radix enumeration, so it visits `(i, j, k)` at step `i + nx·(j + ny·k)` and at no other
(`unflat_iff`); `getA_zip` then gives the value.  Stated with `some … = …[…]?` so that no bound on the index is needed
in the statement. -/
theorem getA_grid (s : Idx3) (vs : List Num) (hlen : vs.length = s.1 * s.2.1 * s.2.2) (i j k : Nat)
    (hi : i < s.1) (hj : j < s.2.1) (hk : k < s.2.2) :
    some (getA zero ((idxOrder s).zip vs) (i, j, k)) = vs[i + s.1 * (j + s.2.1 * k)]? := by
  obtain ⟨nx, ny, nz⟩ := s
  simp only at hi hj hk hlen ⊢
  have hu : i + nx * (j + ny * k) < vs.length := by
    rw [hlen, Nat.mul_assoc]; exact radix_lt hi (radix_lt hj hk)
  have hN : nz * (ny * nx) = vs.length := by rw [hlen, Nat.mul_comm nz, Nat.mul_comm ny nx]
  rw [idxOrder_eq (nx, ny, nz) (by simp only; omega) (by simp only; omega), List.getElem?_eq_getElem hu]
  simp only
  generalize hks : (List.range (nz * (ny * nx))).map _ = ks
  have hg : ∀ u (h : u < ks.length), ks[u] = (u % (ny * nx) % nx, u % (ny * nx) / nx, u / (ny * nx)) := by
    subst hks; intro u h; simp
  have hl : ks.length = vs.length := by subst hks; simpa using hN
  have hp : ks[i + nx * (j + ny * k)]'(hl ▸ hu) = (i, j, k) := by
    obtain ⟨f1, f2, f3⟩ := (unflat_iff nx ny i j k _ hi hj).mpr rfl
    rw [hg, f1, f2, f3]
  rw [← hp]
  congr 1
  apply getA_zip zero ks vs _ (hl ▸ hu) hu
  intro u' h' he
  rw [hp, hg u' h', Prod.mk.injEq, Prod.mk.injEq] at he
  exact (unflat_iff nx ny i j k u' hi hj).mp he

theorem loadGrid_spec (L : Layout) (T : Tables) (S : Spec) (hd : 0 < S.valD) (m : Model)
    (hh : HeaderDom L T S m) (hg : GridDom S m) :
    loadGrid L T (specRender T S m) = .ok (⟨m.header, m.shape, (idxOrder m.shape).zip m.vals⟩, m.tail) := by
  unfold loadGrid specRender specGrid
  rw [loadHeader_spec L T S m hh]
  simp only [List.cons_append, findShape_spec S m.shape _ hg.2.2]
  have := pull_chunks S hd m.tail m.chunks hg.1
  rw [← hg.2.1]
  unfold Model.vals at *
  rw [this]

theorem chunkGo_spec {α : Type} (k : Nat) (hk : 0 < k) : ∀ (f : Nat) (xs : List α), xs.length ≤ f →
    (chunkGo k f xs).flatten = xs ∧ ∀ c ∈ chunkGo k f xs, c ≠ [] ∧ c.length ≤ k := by
  intro f; induction f with
  | zero =>
    intro xs h
    have : xs = [] := List.eq_nil_of_length_eq_zero (by omega)
    subst this; simp [chunkGo]
  | succ f ih =>
    intro xs h
    cases xs with
    | nil => simp [chunkGo]
    | cons x xs =>
      have hl : ((x :: xs).drop k).length ≤ f := by simp only [List.length_drop, List.length_cons] at h ⊢; omega
      obtain ⟨h1, h2⟩ := ih _ hl
      simp only [chunkGo, List.flatten_cons, h1, List.take_append_drop, List.mem_cons, true_and]
      intro c hc
      rcases hc with rfl | hc
      · obtain ⟨j, rfl⟩ : ∃ j, k = j + 1 := ⟨k - 1, by omega⟩
        refine ⟨by simp, ?_⟩
        simp only [List.length_take]; omega
      · exact h2 c hc

end Iodata.FmtR.Vasp
