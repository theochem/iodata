/- Extended XYZ title line: the shlex state machine on `key=value` / `key="…"` pairs, `Lattice`, `Properties`. -/
import Iodata.Lemmas.FmtR.Num
import Iodata.Model.FmtR.ExtXyz
namespace Iodata.FmtR.ExtXyz
open Iodata.Chars Iodata.Decimal Iodata.Fmt Iodata.FmtR

theorem plainCh_spec {c : Char} (h : plainCh c = true) :
    shWs c = false ∧ (c == '"') = false ∧ (c == '\'') = false ∧ (c == '\\') = false := by
  unfold plainCh at h
  simp only [Bool.and_eq_true, Bool.not_eq_true', bne_iff_ne, ne_eq] at h
  refine ⟨h.1.1.1, ?_, ?_, ?_⟩ <;> simp [h.1.1.2, h.1.2, h.2]

theorem shlex_word (t : Str) (ht : ∀ c ∈ t, plainCh c = true) : ∀ (cur rest : Str),
    shlexGo .word cur (t ++ rest) = shlexGo .word (cur ++ t) rest := by
  induction t with
  | nil => intro cur rest; simp
  | cons c t ih =>
    intro cur rest
    obtain ⟨h1, h2, h3, h4⟩ := plainCh_spec (ht c List.mem_cons_self)
    simp only [List.cons_append, shlexGo, h1, h2, h3, h4, Bool.false_eq_true, if_false]
    rw [ih (fun x hx => ht x (List.mem_cons_of_mem _ hx))]
    simp

theorem shlex_dq (t : Str) (ht : ∀ c ∈ t, dqCh c = true) : ∀ (cur rest : Str),
    shlexGo .dq cur (t ++ '"' :: rest) = shlexGo .word (cur ++ t) rest := by
  induction t with
  | nil => intro cur rest; simp [shlexGo]
  | cons c t ih =>
    intro cur rest
    have hc := ht c List.mem_cons_self
    unfold dqCh at hc
    simp only [Bool.and_eq_true, bne_iff_ne, ne_eq] at hc
    have h1 : (c == '"') = false := by simp [hc.1]
    have h2 : (c == '\\') = false := by simp [hc.2]
    simp only [List.cons_append, shlexGo, h1, h2, Bool.false_eq_true, if_false]
    rw [ih (fun x hx => ht x (List.mem_cons_of_mem _ hx))]
    simp

theorem shlex_open (k : Str) (hne : k ≠ []) (hk : ∀ c ∈ k, plainCh c = true) (rest : Str) :
    shlexGo .sp [] (k ++ rest) = shlexGo .word k rest := by
  obtain ⟨k0, k', rfl⟩ := List.exists_cons_of_ne_nil hne
  obtain ⟨h1, h2, h3, h4⟩ := plainCh_spec (hk k0 List.mem_cons_self)
  simp only [List.cons_append, shlexGo, h1, h2, h3, h4, Bool.false_eq_true, if_false]
  exact shlex_word k' (fun x hx => hk x (List.mem_cons_of_mem _ hx)) [k0] rest

theorem shlex_pair (p : Str × Str × Quote) (h : okPair p) (c : Char) (hc : shWs c = true) (rest : Str) :
    shlexGo .sp [] (renderPair p ++ c :: rest) = (shlexGo .sp [] rest).map ((p.1 ++ '=' :: p.2.1) :: ·) := by
  obtain ⟨k, v, q⟩ := p
  obtain ⟨hne, hk, hv⟩ := h
  have hke : ∀ x ∈ k ++ ['='], plainCh x = true := by
    intro x hx
    rcases List.mem_append.mp hx with hx | hx
    · exact hk x hx
    · rw [List.mem_singleton.mp hx]; decide
  cases q with
  | bare =>
    have e : renderPair (k, v, .bare) ++ c :: rest = (k ++ ['=']) ++ (v ++ c :: rest) := by simp [renderPair]
    rw [e, shlex_open _ (by simp) hke, shlex_word v hv]
    simp [shlexGo, hc]
  | dq =>
    have e : renderPair (k, v, .dq) ++ c :: rest = (k ++ ['=']) ++ '"' :: (v ++ '"' :: c :: rest) := by simp [renderPair]
    have hq : shWs '"' = false ∧ (('"' : Char) == '"') = true := by decide
    rw [e, shlex_open _ (by simp) hke]
    simp only [shlexGo, hq.1, hq.2, Bool.false_eq_true, if_false, if_true]
    rw [shlex_dq v hv]
    simp [shlexGo, hc]

theorem splitEq_spec (k v : Str) (hk : '=' ∉ k) : ∀ cur, splitEq cur (k ++ '=' :: v) = some (cur ++ k, v) := by
  induction k with
  | nil => intro cur; simp [splitEq]
  | cons c k ih =>
    intro cur
    simp only [List.cons_append, splitEq, head_beq_false hk, Bool.false_eq_true, if_false]
    rw [ih (fun hx => hk (List.mem_cons_of_mem _ hx))]
    simp

theorem mapOpt_pyFloat_render (d : Nat) : ∀ l : List Num, (∀ x ∈ l, x.exp = -(d : Int)) →
    mapOpt pyFloat (l.map (renderNum (stP d))) = some l := by
  intro l; induction l with
  | nil => intro _; rfl
  | cons x l ih =>
    intro h
    simp only [List.map_cons, mapOpt, pyFloat_bare (stP d) x (styleOK_fixed d x (h x List.mem_cons_self)),
      ih (fun y hy => h y (List.mem_cons_of_mem _ hy))]

theorem splitWs_renderLattice (d : Nat) (l : List Num) (h : ∀ x ∈ l, x.exp = -(d : Int)) :
    splitWs (renderLattice d l) = l.map (renderNum (stP d)) := by
  unfold renderLattice
  apply splitWs_joinSp
  intro t ht
  obtain ⟨x, hx, rfl⟩ := List.mem_map.mp ht
  exact ⟨renderNum_noWs (stP d) x (styleOK_fixed d x (h x hx)), renderNum_ne_nil _ _⟩

theorem applyPair_lattice (tb : List (Str × Bool)) (d0 : TitleData) (d : Nat) (l : List Num)
    (h : ∀ x ∈ l, x.exp = -(d : Int)) (hl : l.length = 9) :
    applyPair tb d0 ("Lattice=".toList ++ renderLattice d l) = .ok { d0 with cell := some l } := by
  have hs : splitEq [] ("Lattice=".toList ++ renderLattice d l) = some ("Lattice".toList, renderLattice d l) := by
    have hk : "Lattice=".toList = "Lattice".toList ++ ['='] := by repeat rw [toList_lit (by with_reducible rfl)]; rfl
    have hne : '=' ∉ "Lattice".toList := by rw [toList_lit (by with_reducible rfl)]; decide
    rw [hk, List.append_assoc]
    exact splitEq_spec _ _ hne []
  unfold applyPair
  rw [hs]
  repeat rw [toList_lit (by with_reducible rfl)]
  simp [splitWs_renderLattice d l h, mapOpt_pyFloat_render d l h, hl]

theorem splitOnGo_tok (t : Str) (ht : ':' ∉ t) : ∀ cur rest, splitOnGo ':' cur (t ++ rest) = splitOnGo ':' (cur ++ t) rest := by
  induction t with
  | nil => intro cur rest; simp
  | cons c t ih =>
    intro cur rest
    simp only [List.cons_append, splitOnGo, head_beq_false ht, Bool.false_eq_true, if_false]
    rw [ih (fun hx => ht (List.mem_cons_of_mem _ hx))]
    simp

theorem splitOn_intercalate : ∀ (parts : List Str), parts ≠ [] → (∀ t ∈ parts, ':' ∉ t) →
    splitOn ':' (List.intercalate [':'] parts) = parts := by
  intro parts; induction parts with
  | nil => intro h; exact absurd rfl h
  | cons t ts ih =>
    intro _ h
    have ht := h t List.mem_cons_self
    cases ts with
    | nil =>
      have := splitOnGo_tok t ht [] []
      simpa [splitOn, List.intercalate, splitOnGo] using this
    | cons u us =>
      have e : List.intercalate [':'] (t :: u :: us) = t ++ (':' :: List.intercalate [':'] (u :: us)) := by
        simp [List.intercalate]
      have hrest := ih (by simp) (fun x hx => h x (List.mem_cons_of_mem _ hx))
      unfold splitOn at hrest ⊢
      rw [e, splitOnGo_tok t ht [] _]
      simp only [List.nil_append, splitOnGo, beq_self_eq_true, if_true, hrest]

/-! `lit_*`: the column names the source compares with, as character lists (no decoding, see `toList_lit`). -/

theorem lit_pos : "pos".toList = ['p','o','s'] := toList_lit (by with_reducible rfl)
theorem lit_masses : "masses".toList = ['m','a','s','s','e','s'] := toList_lit (by with_reducible rfl)
theorem lit_force : "force".toList = ['f','o','r','c','e'] := toList_lit (by with_reducible rfl)
theorem lit_species : "species".toList = ['s','p','e','c','i','e','s'] := toList_lit (by with_reducible rfl)

/-- `Prop'.triple` as the triple `(name, dtype, ncols)` that `group3` hands to `propColumn`, names spelt out -/
def nameTypeCols : Prop' → Str × Str × Str
  | .species => (['s','p','e','c','i','e','s'], ['S'], ['1'])
  | .z => (['Z'], ['I'], ['1'])
  | .pos => (['p','o','s'], ['R'], ['3'])
  | .masses => (['m','a','s','s','e','s'], ['R'], ['1'])
  | .force => (['f','o','r','c','e'], ['R'], ['3'])
  | .other n d k => (n, [d], natToDec k)

theorem triple_eq (p : Prop') : p.triple = [(nameTypeCols p).1, (nameTypeCols p).2.1, (nameTypeCols p).2.2] := by
  cases p <;> simp only [Prop'.triple, nameTypeCols, lit_pos, lit_masses, lit_force, lit_species]

theorem group3_triples : ∀ ps : List Prop', group3 (ps.flatMap Prop'.triple) = ps.map nameTypeCols := by
  intro ps; induction ps with
  | nil => rfl
  | cons p ps ih => simp only [List.flatMap_cons, triple_eq, List.cons_append, List.nil_append, group3, ih, List.map_cons]

theorem length_triples : ∀ ps : List Prop', (ps.flatMap Prop'.triple).length = 3 * ps.length := by
  intro ps; induction ps with
  | nil => rfl
  | cons p ps ih => simp only [List.flatMap_cons, triple_eq, List.length_append, List.length_cons, List.length_nil, ih]; omega

theorem kindOf_no_colon {d : Char} (h : (kindOf d).isSome) : d ≠ ':' := by
  intro e; subst e; revert h; decide

theorem triples_no_colon (ps : List Prop') (h : ∀ p ∈ ps, okProp p) : ∀ t ∈ ps.flatMap Prop'.triple, ':' ∉ t := by
  intro t ht
  obtain ⟨p, hp, htp⟩ := List.mem_flatMap.mp ht
  have hok := h p hp
  rw [triple_eq] at htp
  cases p with
  | other n d k =>
    simp only [nameTypeCols, List.mem_cons, List.not_mem_nil, or_false] at htp
    rcases htp with rfl | rfl | rfl
    · exact hok.1.1
    · intro hc; simp at hc; exact kindOf_no_colon hok.2 hc.symm
    · exact fun hc => absurd ((allDigits_natToDec k) _ hc) (by decide)
  | _ =>
    simp only [nameTypeCols, List.mem_cons, List.not_mem_nil, or_false] at htp
    rcases htp with rfl | rfl | rfl <;> decide

/-- among admissible declarations only `Z` is called `Z` and only `species` is called `species` -/
theorem mem_names (ps : List Prop') (h : ∀ p ∈ ps, okProp p) (q : Prop') (hq : q = .z ∨ q = .species) :
    (nameTypeCols q).1 ∈ (ps.map nameTypeCols).map (·.1) ↔ q ∈ ps := by
  simp only [List.mem_map]
  constructor
  · rintro ⟨x, ⟨p, hp, rfl⟩, hx⟩
    have hn := h p hp
    rcases hq with rfl | rfl <;> cases p
    case inl.z | inr.species => exact hp
    case inl.other => exact absurd hx hn.1.2.2.2.2.1
    case inr.other => have := hn.1.2.2.2.2.2; rw [lit_species] at this; exact absurd hx this
    all_goals exact absurd hx (by decide)
  · intro hz; exact ⟨nameTypeCols q, ⟨q, hz, rfl⟩, rfl⟩

theorem names_contains_Z (ps : List Prop') (h : ∀ p ∈ ps, okProp p) :
    ((ps.map nameTypeCols).map (·.1)).contains ['Z'] = decide (Prop'.z ∈ ps) := by
  rw [List.contains_eq_mem, decide_eq_decide]
  exact mem_names ps h .z (Or.inl rfl)

theorem names_contains_species (ps : List Prop') (h : ∀ p ∈ ps, okProp p) :
    ((ps.map nameTypeCols).map (·.1)).contains "species".toList = decide (Prop'.species ∈ ps) := by
  rw [lit_species, List.contains_eq_mem, decide_eq_decide]
  exact mem_names ps h .species (Or.inr rfl)

theorem dtypeKind_single (d : Char) : dtypeKind [d] = kindOf d := by
  unfold dtypeKind kindOf
  simp only [List.cons.injEq, and_true]

theorem propColumn_spec (ps : List Prop') (p : Prop') (hp : p ∈ ps) (hok : okProp p) (c : Column)
    (hc : colOf (decide (Prop'.z ∈ ps)) p = some c) :
    propColumn (decide (Prop'.z ∈ ps)) (decide (Prop'.species ∈ ps)) (nameTypeCols p) = .ok c := by
  -- `-String.reduceToList`: the names of the result columns stay literals; evaluated, the kernel would decode them
  cases p with
  | species =>
    by_cases hz : Prop'.z ∈ ps
    · simp only [colOf, hz, decide_true, if_true, Option.some.injEq] at hc; subst hc
      simp [-String.reduceToList, propColumn, nameTypeCols, lit_pos, lit_masses, lit_force, lit_species, hz, dtypeKind]
    · simp only [colOf, hz, decide_false, Bool.false_eq_true, if_false, Option.some.injEq] at hc; subst hc
      simp [-String.reduceToList, propColumn, nameTypeCols, lit_pos, lit_masses, lit_force, lit_species, hz, hp]
  | other n d k =>
    obtain ⟨⟨_, n1, n2, n3, n4, n5⟩, hk⟩ := hok
    obtain ⟨kd, hkd⟩ := Option.isSome_iff_exists.mp hk
    simp only [colOf, hkd, Option.map_some, Option.some.injEq] at hc; subst hc
    simp only [propColumn, nameTypeCols, n1, n2, n3, n4, n5, if_false, Bool.false_and, Bool.false_eq_true, decide_false,
      dtypeKind_single, hkd, natToDec_eq_one]
    by_cases h1 : k = 1
    · subst h1; simp
    · simp [h1, pyInt_natToDec]
  | _ =>
    simp only [colOf, Option.some.injEq] at hc; subst hc
    simp [-String.reduceToList, propColumn, nameTypeCols, lit_pos, lit_masses, lit_force, hp]

theorem mapR_cols (ps all : List Prop') (hsub : ∀ p ∈ ps, p ∈ all) (hok : ∀ p ∈ ps, okProp p) : ∀ cols : List Column,
    mapOpt (colOf (decide (Prop'.z ∈ all))) ps = some cols →
    mapR (propColumn (decide (Prop'.z ∈ all)) (decide (Prop'.species ∈ all))) (ps.map nameTypeCols) = .ok cols := by
  induction ps with
  | nil => intro cols h; simp [mapOpt] at h; subst h; rfl
  | cons p ps ih =>
    intro cols h
    simp only [mapOpt] at h
    cases hc : colOf (decide (Prop'.z ∈ all)) p with
    | none => simp [hc] at h
    | some c =>
      cases hr : mapOpt (colOf (decide (Prop'.z ∈ all))) ps with
      | none => simp [hc, hr] at h
      | some cs =>
        simp only [hc, hr, Option.some.injEq] at h; subst h
        simp only [List.map_cons, mapR, propColumn_spec all p (hsub p List.mem_cons_self) (hok p List.mem_cons_self) c hc,
          ih (fun x hx => hsub x (List.mem_cons_of_mem _ hx)) (fun x hx => hok x (List.mem_cons_of_mem _ hx)) cs hr]

end Iodata.FmtR.ExtXyz
