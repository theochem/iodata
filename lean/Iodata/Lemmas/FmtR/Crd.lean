/- CHARMM CRD: a file in the published card layout is read back record by record. -/
import Iodata.Lemmas.FmtR.Num
import Iodata.Model.FmtR.Crd
namespace Iodata.FmtR.Crd
open Iodata.Chars Iodata.Decimal Iodata.Fmt Iodata.FmtR

theorem pyFloat_f5 (x : Num) (h : x.exp = -5) : pyFloat (renderNum stF5 x) = some x :=
  pyFloat_bare _ x (styleOK_fixed 5 x h)

def padA (t : Str) : Padded := ⟨[' '], t, spaces (4 - t.length)⟩

/-- a field that splits off as one word and is separated from the field before it -/
def Sep (x : Padded) : Prop := x.OK ∧ x.pre ≠ []

theorem rjustP_sep {w : Nat} {t : Str} (h1 : NoWs t) (h2 : t ≠ []) (h3 : t.length < w) : Sep (rjustP w t) :=
  ⟨rjustP_ok w h1 h2, rjustP_pre_ne_nil h3⟩
theorem padA_sep {t : Str} (h : okA4 t) : Sep (padA t) :=
  ⟨⟨(by decide : AllWs [' ']), h.1, h.2.1, allWs_spaces _⟩, List.cons_ne_nil _ _⟩

theorem splitWs_specAtom (i : Nat) (a : SAtom) (h : okAtom a) :
    splitWs (specAtom i a) = [natToDec (i + 1), natToDec a.resnum, a.resname, a.attype, renderNum stF5 a.x,
      renderNum stF5 a.y, renderNum stF5 a.z, a.segid, natToDec a.resid, renderNum stF5 a.mass] := by
  obtain ⟨h1, h2, h3, hx, hy, hz, h7, h8, hm⟩ := h
  have hd : ∀ n, NoWs (natToDec n) ∧ natToDec n ≠ [] := fun n => ⟨(allDigits_natToDec n).noWs, natToDec_ne_nil n⟩
  have hf : ∀ x, okF10 x → Sep (rjustP 10 (renderNum stF5 x)) :=
    fun x hx => rjustP_sep (renderNum_noWs _ _ (styleOK_fixed 5 x hx.1)) (renderNum_ne_nil _ _) hx.2
  let ys : List Padded := [rjustP 5 (natToDec a.resnum), padA a.resname, padA a.attype, rjustP 10 (renderNum stF5 a.x),
    rjustP 10 (renderNum stF5 a.y), rjustP 10 (renderNum stF5 a.z), padA a.segid, padA (natToDec a.resid),
    rjustP 10 (renderNum stF5 a.mass)]
  have hys : ∀ y ∈ ys, Sep y := by
    simp only [ys, List.forall_mem_cons, List.not_mem_nil, false_imp_iff, implies_true, and_true]
    exact ⟨rjustP_sep (hd _).1 (hd _).2 h1, padA_sep h2, padA_sep h3, hf _ hx, hf _ hy, hf _ hz, padA_sep h7,
      padA_sep ⟨(hd _).1, (hd _).2, h8⟩, hf _ hm⟩
  have e : specAtom i a = ((rjustP 5 (natToDec (i + 1)) :: ys).map Padded.render).flatten ++ ['\n'] := by
    simp [specAtom, ys, a4, f10, rjust, ljust, Padded.render, rjustP, padA]
  rw [e, splitWs_line _ (List.forall_mem_cons.mpr ⟨rjustP_ok _ (hd _).1 (hd _).2, fun y hy => (hys y hy).1⟩)
    (fun y hy => (hys y hy).2)]
  simp [ys, rjustP, padA]

theorem parseAtom_specAtom (L : Layout) (hL : LayoutOK L) (i : Nat) (a : SAtom) (h : okAtom a) :
    parseAtom L (specAtom i a) = .ok a.atom := by
  unfold LayoutOK at hL; subst hL
  unfold parseAtom
  rw [splitWs_specAtom i a h]
  obtain ⟨_, _, _, hx, hy, hz, _, _, hm⟩ := h
  simp only [iword, fword, word, optE, List.getElem?_cons_succ, List.getElem?_cons_zero, pyInt_natToDec,
    pyFloat_f5 _ hx.1, pyFloat_f5 _ hy.1, pyFloat_f5 _ hz.1, pyFloat_f5 _ hm.1, SAtom.atom]

theorem readN_specAtoms (L : Layout) (hL : LayoutOK L) (rest : List Str) : ∀ (as : List SAtom) (i : Nat),
    (∀ a ∈ as, okAtom a) → readN (parseAtom L) as.length (specAtoms i as ++ rest) = .ok (as.map SAtom.atom, rest) := by
  intro as; induction as with
  | nil => intro i _; rfl
  | cons a as ih =>
    intro i h
    simp only [List.length_cons, specAtoms, List.cons_append, readN, parseAtom_specAtom L hL i a (h a List.mem_cons_self),
      ih (i + 1) (fun x hx => h x (List.mem_cons_of_mem _ hx)), List.map_cons]

theorem titleGo_spec (rest : List Str) : ∀ (ts : List Str) (acc : Str),
    (∀ t ∈ ts, (strip (t ++ ['\n'])).isEmpty = false) →
    titleGo (ts.map (fun t => '*' :: (t ++ ['\n'])) ++ (['*', '\n'] :: rest)) acc
      = .ok (acc ++ (ts.map fun t => t ++ ['\n']).flatten, rest) := by
  intro ts; induction ts with
  | nil =>
    intro acc _
    have : (strip ['\n']).isEmpty = true := by decide
    simp [titleGo, startsWith, List.isPrefixOf, this]
  | cons t ts ih =>
    intro acc h
    have ht := h t List.mem_cons_self
    simp only [List.map_cons, List.cons_append, titleGo, startsWith, List.isPrefixOf, beq_self_eq_true, Bool.true_and,
      if_true, List.drop_succ_cons, List.drop_zero, ht, Bool.false_eq_true, if_false]
    rw [ih (acc ++ (t ++ ['\n'])) (fun x hx => h x (List.mem_cons_of_mem _ hx))]
    simp

theorem natomLine (n : Nat) : strip (rjust 5 (natToDec n) ++ ['\n']) = natToDec n := by
  unfold rjust
  rw [List.append_assoc]
  exact strip_noWs_pad _ _ _ (allWs_spaces _) allWs_nl (allDigits_natToDec n).noWs

/-- C03 for CRD: every file of the published card layout loads as the object it denotes -/
theorem load_spec (L : Layout) (hL : LayoutOK L) (m : Model) (h : Dom m) : load L (specRender m) = .ok m.obj := by
  unfold load specRender
  rw [titleGo_spec _ m.titleLines [] h.1]
  simp only [List.nil_append, natomLine, isDigitStr_natToDec, if_true, decToNat_natToDec]
  have := readN_specAtoms L hL [] m.atoms 0 h.2.1
  rw [List.append_nil] at this
  rw [this]; rfl

end Iodata.FmtR.Crd
