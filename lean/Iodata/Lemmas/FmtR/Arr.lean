/- Assignment logs: what an array holds after a sequence of item assignments; nested `range` loops. -/
import Iodata.Model.FmtR.Arr
namespace Iodata.FmtR

theorem foldl_assign {κ α : Type} [DecidableEq κ] (p : κ) (x : α) :
    ∀ (A : List (κ × α)) (acc : α), (acc = x ∨ ∃ kv ∈ A, kv.1 = p) → (∀ kv ∈ A, kv.1 = p → kv.2 = x) →
      A.foldl (fun acc kv => if kv.1 = p then kv.2 else acc) acc = x := by
  intro A; induction A with
  | nil =>
    intro acc h _
    rcases h with h | ⟨kv, hkv, _⟩
    · exact h
    · cases hkv
  | cons kv A ih =>
    intro acc h hall
    simp only [List.foldl_cons]
    apply ih
    · by_cases hk : kv.1 = p
      · left; simp only [hk, if_true]; exact hall kv List.mem_cons_self hk
      · simp only [hk, if_false]
        rcases h with h | ⟨kv', hkv', hp⟩
        · left; exact h
        · rcases List.mem_cons.mp hkv' with e | e
          · subst e; exact absurd hp hk
          · right; exact ⟨kv', e, hp⟩
    · intro kv' hkv' hp; exact hall kv' (List.mem_cons_of_mem _ hkv') hp

theorem getA_of_all {κ α : Type} [DecidableEq κ] (zero : α) (A : List (κ × α)) (p : κ) (x : α)
    (hex : ∃ kv ∈ A, kv.1 = p) (hall : ∀ kv ∈ A, kv.1 = p → kv.2 = x) : getA zero A p = x :=
  foldl_assign p x A zero (Or.inr hex) hall

theorem getA_untouched {κ α : Type} [DecidableEq κ] (zero : α) (A : List (κ × α)) (p : κ)
    (h : ∀ kv ∈ A, kv.1 ≠ p) : getA zero A p = zero :=
  foldl_assign p zero A zero (Or.inl rfl) (fun kv hkv hp => absurd hp (h kv hkv))

theorem getA_zip {κ α : Type} [DecidableEq κ] (zero : α) (ks : List κ) (vs : List α) (u : Nat) (hk : u < ks.length)
    (hv : u < vs.length) (hinj : ∀ u' (h : u' < ks.length), ks[u'] = ks[u] → u' = u) :
    getA zero (ks.zip vs) ks[u] = vs[u] := by
  apply getA_of_all
  · exact ⟨(ks[u], vs[u]), List.mem_iff_getElem.mpr ⟨u, by rw [List.length_zip]; omega, List.getElem_zip⟩, rfl⟩
  · intro kv hkv hp
    obtain ⟨u', hu', rfl⟩ := List.mem_iff_getElem.mp hkv
    simp only [List.length_zip, Nat.lt_min] at hu'
    simp only [List.getElem_zip] at hp ⊢
    have := hinj u' hu'.1 hp
    subst this; rfl

theorem flatMap_range_map {α : Type} (g : Nat → Nat → α) (m : Nat) (hm : 0 < m) : ∀ n,
    (List.range n).flatMap (fun i => (List.range m).map (fun j => g i j))
      = (List.range (n * m)).map (fun t => g (t / m) (t % m)) := by
  intro n; induction n with
  | zero => simp
  | succ n ih =>
    rw [List.range_succ, List.flatMap_append, ih, Nat.succ_mul, List.range_add, List.map_append]
    congr 1
    simp only [List.flatMap_cons, List.flatMap_nil, List.append_nil, List.map_map]
    apply List.map_congr_left
    intro j hj
    have hj' : j < m := List.mem_range.mp hj
    simp only [Function.comp]
    have h1 : (n * m + j) / m = n := by
      rw [Nat.mul_comm, Nat.mul_add_div hm, Nat.div_eq_of_lt hj']; rfl
    have h2 : (n * m + j) % m = j := by
      rw [Nat.mul_comm, Nat.mul_add_mod, Nat.mod_eq_of_lt hj']
    rw [h1, h2]

end Iodata.FmtR
