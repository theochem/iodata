/- Gaussian log matrices: the five-column blocks of the published layout are read back into exactly the
lower triangle (with the symmetric fill), for every matrix size.

The definitions in this file (`rowVals`, `blockAssigns`, `allAssigns`, `fourAssigns`, `MarkersOK`, `plainLine`, `SecOK`,
`applySec`) are the specification side of `glog_twoindex_spec`, `glog_fourindex_spec` and `glog_load_spec`: what the
printed sections denote and which section headings the layout has (`MarkersOK`; the column constants are `LayoutOK`,
with the model).  `SecOK` and `glog_twoindex_spec` ask `FitsTwo` of `f r c` for all `r c`, although only the entries
`c ≤ r < n` are printed. -/
import Iodata.Lemmas.FmtR.Num
import Iodata.Lemmas.FmtR.Arr
import Iodata.Model.FmtR.GaussianLog
namespace Iodata.FmtR.GLog
open Iodata.Chars Iodata.Decimal Iodata.Fmt Iodata.FmtR

theorem pyFloat_D (d : Nat) (x : Num) (p q : Str) (hp : AllWs p) (hq : AllWs q) :
    pyFloat (p ++ (replaceDE (renderNum (stD d) x) ++ q)) = some x := by
  unfold stD
  rw [replaceDE_renderNum]
  exact pyFloat_renderNum ⟨d, true, some 'E'⟩ x (styleOK_E d true x (Or.inl rfl)) p q hp hq

theorem pyFloat_D0 (d : Nat) (x : Num) : pyFloat (replaceDE (renderNum (stD d) x)) = some x := by
  simpa using pyFloat_D d x [] [] allWs_nil allWs_nil

theorem parseWords_render (d : Nat) : ∀ vs : List Num, parseWords (vs.map (renderNum (stD d))) = .ok vs := by
  intro vs; induction vs with
  | nil => rfl
  | cons v vs ih => simp only [List.map_cons, parseWords, pyFloat_D0, ih]

theorem stD_noWs (d : Nat) (x : Num) : NoWs (renderNum (stD d) x) :=
  renderNum_noWs' _ _ (by intro c hc; simp only [stD, Option.some.injEq] at hc; subst hc; decide)

def rowVals (S : Spec) (f : Nat → Nat → Num) (r b : Nat) : List Num :=
  (List.range (min S.perBlock (r - b + 1))).map fun t => f r (b + t)

theorem splitWs_specRow (S : Spec) (f : Nat → Nat → Num) (r b : Nat) (hfit : ∀ c, FitsTwo S (f r c)) :
    splitWs (specRow S f r b) = natToDec (r + 1) :: (rowVals S f r b).map (renderNum (stD S.colD)) := by
  have e : specRow S f r b = (((S.labelW, natToDec (r + 1)) ::
      (rowVals S f r b).map fun x => (S.colW, renderNum (stD S.colD) x)).map fun p => rjust p.1 p.2).flatten ++ ['\n'] := by
    simp [specRow, rowVals, List.map_map, Function.comp_def]
  rw [e, splitWs_rjust_fields]
  · simp [List.map_map, Function.comp_def]
  · intro p hp
    rcases List.mem_cons.mp hp with rfl | hp
    · exact ⟨(allDigits_natToDec _).noWs, natToDec_ne_nil _⟩
    · obtain ⟨x, _, rfl⟩ := List.mem_map.mp hp
      exact ⟨stD_noWs _ _, renderNum_ne_nil _ _⟩
  · intro p hp
    obtain ⟨x, hx, rfl⟩ := List.mem_map.mp hp
    obtain ⟨t, _, rfl⟩ := List.mem_map.mp hx
    exact hfit (b + t)

theorem rowsGo_spec (L : Layout) (S : Spec) (n : Nat) (f : Nat → Nat → Num) (b : Nat) (rest : List Str)
    (hskip : L.skipWords = 1) (hfit : ∀ r c, FitsTwo S (f r c)) :
    ∀ c i, i + c = n - b → b < n →
      rowsGo L n b i c ((List.range' i c).map (fun t => specRow S f (b + t) b) ++ rest)
        = .ok ((List.range' i c).flatMap (fun t => assignRow (t + b) b 0 (rowVals S f (b + t) b)), rest) := by
  intro c; induction c with
  | zero => intro i _ _; simp [rowsGo]
  | succ c ih =>
    intro i hic hb
    have hin : rowInRange n (i + b) b (rowVals S f (b + i) b).length = true := by
      simp only [rowInRange, rowVals, List.length_map, List.length_range, Nat.add_sub_cancel_left, Bool.and_eq_true,
        decide_eq_true_eq]
      omega
    simp only [List.range'_succ, List.map_cons, List.cons_append, rowsGo, splitWs_specRow S f (b + i) b (hfit _),
      hskip, List.drop_succ_cons, List.drop_zero, parseWords_render, hin, if_true, List.flatMap_cons]
    rw [ih (i + 1) (by omega) hb]

def blockAssigns (S : Spec) (f : Nat → Nat → Num) (n b : Nat) : Assign2 :=
  (List.range' 0 (n - b)).flatMap (fun i => assignRow (i + b) b 0 (rowVals S f (b + i) b))

/-- one turn of `while block_counter < nbasis:` reads one block: its header line and its `n - b` rows -/
theorem twoGo_block (L : Layout) (S : Spec) (n : Nat) (f : Nat → Nat → Num) (b : Nat) (rest : List Str)
    (hskip : L.skipWords = 1) (hstep : L.blockStep = 5) (hfit : ∀ r c, FitsTwo S (f r c)) (hb : b < n) (g : Nat) :
    twoGo L n (g + 1) b (specBlock S n f b ++ rest)
      = match twoGo L n g (b + 5) rest with
        | .error e => .error e
        | .ok (as, r') => .ok (blockAssigns S f n b ++ as, r') := by
  have hrows := rowsGo_spec L S n f b rest hskip hfit (n - b) 0 (by omega) hb
  unfold specBlock blockAssigns
  rw [List.range_eq_range']
  simp only [List.cons_append, twoGo, hb, if_true, hrows, hstep]
  rfl

theorem twoGo_spec (L : Layout) (S : Spec) (n : Nat) (f : Nat → Nat → Num) (rest : List Str)
    (hskip : L.skipWords = 1) (hstep : L.blockStep = 5) (hfit : ∀ r c, FitsTwo S (f r c)) :
    ∀ m j fuel, m < fuel → j + m = (n + 4) / 5 →
      twoGo L n fuel (5 * j) ((List.range' j m).flatMap (fun k => specBlock S n f (5 * k)) ++ rest)
        = .ok ((List.range' j m).flatMap (fun k => blockAssigns S f n (5 * k)), rest) := by
  intro m; induction m with
  | zero =>
    intro j fuel hf hj
    obtain ⟨g, rfl⟩ : ∃ g, fuel = g + 1 := ⟨fuel - 1, by omega⟩
    have : ¬ 5 * j < n := by omega
    simp [twoGo, this]
  | succ m ih =>
    intro j fuel hf hj
    obtain ⟨g, rfl⟩ : ∃ g, fuel = g + 1 := ⟨fuel - 1, by omega⟩
    rw [List.range'_succ, List.flatMap_cons, List.flatMap_cons, List.append_assoc,
      twoGo_block L S n f (5 * j) _ hskip hstep hfit (by omega) g, ← Nat.mul_succ, ih (j + 1) g (by omega) (by omega)]

def allAssigns (S : Spec) (f : Nat → Nat → Num) (n : Nat) : Assign2 :=
  (List.range' 0 ((n + 4) / 5)).flatMap (fun k => blockAssigns S f n (5 * k))

theorem loadTwo_spec (L : Layout) (S : Spec) (n : Nat) (f : Nat → Nat → Num) (rest : List Str)
    (hskip : L.skipWords = 1) (hstep : L.blockStep = 5) (hP : S.perBlock = 5) (hfit : ∀ r c, FitsTwo S (f r c)) :
    loadTwo L n (specTwo S n f ++ rest) = .ok (allAssigns S f n, rest) := by
  have := twoGo_spec L S n f rest hskip hstep hfit ((n + 4) / 5) 0 (n + 1) (by omega) (by omega)
  unfold loadTwo specTwo allAssigns
  rw [hP]
  have e : (n + 5 - 1) / 5 = (n + 4) / 5 := by omega
  rw [e, List.range_eq_range']
  simpa using this

theorem assignRow_eq (r b : Nat) : ∀ (vs : List Num) (j : Nat),
    assignRow r b j vs = (vs.zipIdx j).flatMap fun p => [((r, p.2 + b), p.1), ((p.2 + b, r), p.1)]
  | [], _ => rfl
  | v :: vs, j => by simp only [assignRow, List.zipIdx_cons, List.flatMap_cons, assignRow_eq r b vs (j + 1)]; rfl

theorem mem_assignRow (r b : Nat) (vs : List Num) (kv : Idx2 × Num) :
    kv ∈ assignRow r b 0 vs ↔ ∃ t v, vs[t]? = some v ∧ (kv = ((r, t + b), v) ∨ kv = ((t + b, r), v)) := by
  simp only [assignRow_eq, List.mem_flatMap, List.mem_zipIdx_iff_getElem?, Prod.exists, List.mem_cons, List.not_mem_nil,
    or_false]
  exact exists_comm

theorem mem_allAssigns (S : Spec) (f : Nat → Nat → Num) (n : Nat) (hP : S.perBlock = 5) (kv : Idx2 × Num) :
    kv ∈ allAssigns S f n ↔ ∃ r c, c ≤ r ∧ r < n ∧ (kv = ((r, c), f r c) ∨ kv = ((c, r), f r c)) := by
  unfold allAssigns blockAssigns
  simp only [List.mem_flatMap, List.mem_range'_1, Nat.zero_le, true_and, Nat.zero_add, mem_assignRow, rowVals, hP,
    Nat.add_sub_cancel_left, List.getElem?_map, Option.map_eq_some_iff]
  constructor
  · rintro ⟨k, hk, i, hi, t, v, ⟨t', ht', rfl⟩, h⟩
    obtain ⟨hlt, rfl⟩ := List.getElem?_eq_some_iff.mp ht'
    rw [List.length_range] at hlt
    rw [List.getElem_range, Nat.add_comm i, Nat.add_comm t] at h
    exact ⟨5 * k + i, 5 * k + t, Nat.add_le_add_left (Nat.le_of_lt_succ (Nat.lt_min.mp hlt).2) _,
      Nat.add_lt_of_lt_sub' hi, h⟩
  · rintro ⟨r, c, hcr, hrn, h⟩
    -- block `q = c / 5`, column `m = c % 5` of the block, row `r - 5 q` of the block
    obtain ⟨q, m, hm, rfl⟩ : ∃ q m, m < 5 ∧ c = 5 * q + m :=
      ⟨c / 5, c % 5, Nat.mod_lt _ (by decide), (Nat.div_add_mod c 5).symm⟩
    have hq : 5 * q ≤ r := by omega
    have e : 5 * q + (r - 5 * q) = r := Nat.add_sub_cancel' hq
    refine ⟨q, (Nat.le_div_iff_mul_le (by decide)).mpr (by omega), r - 5 * q, Nat.sub_lt_sub_right hq hrn, m,
      f r (5 * q + m), ⟨m, List.getElem?_range (Nat.lt_min.mpr ⟨hm, by omega⟩), by rw [e]⟩, ?_⟩
    rw [Nat.add_comm _ (5 * q), e, Nat.add_comm m]; exact h

theorem getA_allAssigns (S : Spec) (f : Nat → Nat → Num) (n : Nat) (hP : S.perBlock = 5) (r c : Nat)
    (hr : r < n) (hc : c < n) : getA zero (allAssigns S f n) (r, c) = f (max r c) (min r c) := by
  apply getA_of_all
  · by_cases h : c ≤ r
    · exact ⟨((r, c), f r c), (mem_allAssigns S f n hP _).mpr ⟨r, c, h, hr, Or.inl rfl⟩, rfl⟩
    · exact ⟨((r, c), f c r), (mem_allAssigns S f n hP _).mpr ⟨c, r, by omega, hc, Or.inr rfl⟩, rfl⟩
  · intro kv hkv hp
    obtain ⟨r', c', hcr, _, h | h⟩ := (mem_allAssigns S f n hP kv).mp hkv
    · subst h; simp only [Prod.mk.injEq] at hp
      obtain ⟨rfl, rfl⟩ := hp
      simp only
      rw [Nat.max_eq_left hcr, Nat.min_eq_right hcr]
    · subst h; simp only [Prod.mk.injEq] at hp
      obtain ⟨rfl, rfl⟩ := hp
      simp only
      rw [Nat.max_eq_right hcr, Nat.min_eq_left hcr]

theorem allAssigns_in_range (S : Spec) (f : Nat → Nat → Num) (n : Nat) (hP : S.perBlock = 5) :
    ∀ kv ∈ allAssigns S f n, kv.1.1 < n ∧ kv.1.2 < n := by
  intro kv hkv
  obtain ⟨r, c, hcr, hrn, h | h⟩ := (mem_allAssigns S f n hP kv).mp hkv <;> subst h <;> simp <;> omega

theorem replaceDE_append (a b : Str) : replaceDE (a ++ b) = replaceDE a ++ replaceDE b := by
  simp [replaceDE]

theorem replaceDE_spaces (n : Nat) : replaceDE (spaces n) = spaces n := by
  simp [replaceDE, spaces]

/-- `int(…)` of a right-justified number with blanks after it -/
theorem pyInt_rjust (w n : Nat) (q : Str) (hq : AllWs q) : pyInt (rjust w (natToDec n) ++ q) = some (Int.ofNat n) := by
  have := pyInt_intToDec (spaces (w - (natToDec n).length)) q (Int.ofNat n) (allWs_spaces _) hq
  simpa [rjust, intToDec] using this

theorem intField_spec (w k : Nat) (sl : Nat × Nat) (line : Str)
    (h : slice sl.1 sl.2 line = rjust w (natToDec (k + 1)) ++ [' ']) : intField sl line = .ok k := by
  unfold intField
  rw [h, pyInt_rjust _ _ _ (by decide)]

/-- the slices of the source cut the four index fields (with the blank after each) and the value out of a printed line -/
theorem fourLine_spec (L : Layout) (S : Spec) (hL : LayoutOK L) (hw : S.idxW = 3) (e : Helpers.Idx × Num)
    (hfit : FitsFour S e) : fourLine L (specFourLine S e) = .ok e := by
  obtain ⟨_, _, _, _, h0, h1, h2, h3, hv, _⟩ := hL
  obtain ⟨⟨a, b, c, d⟩, v⟩ := e
  obtain ⟨fa, fb, fc, fd, _⟩ := hfit
  simp only at fa fb fc fd
  have hws : (specFourPieces S ((a, b, c, d), v)).map List.length
      = [3, 4, 2, 4, 2, 4, 2, 4, 4, (rjust S.valW (renderNum (stD S.valD) v)).length + 1] := by
    simp [specFourPieces, hw, length_rjust _ _ (hw ▸ fa), length_rjust _ _ (hw ▸ fb), length_rjust _ _ (hw ▸ fc),
      length_rjust _ _ (hw ▸ fd)]
  have r0 : intField L.i0 (specFourLine S ((a, b, c, d), v)) = .ok a :=
    intField_spec _ a _ _ (by rw [h0]; exact slice_fields hws 1 3 7 (by simp) (by simp))
  have r1 : intField L.i1 (specFourLine S ((a, b, c, d), v)) = .ok b :=
    intField_spec _ b _ _ (by rw [h1]; exact slice_fields hws 3 9 13 (by simp) (by simp))
  have r2 : intField L.i2 (specFourLine S ((a, b, c, d), v)) = .ok c :=
    intField_spec _ c _ _ (by rw [h2]; exact slice_fields hws 5 15 19 (by simp) (by simp))
  have r3 : intField L.i3 (specFourLine S ((a, b, c, d), v)) = .ok d :=
    intField_spec _ d _ _ (by rw [h3]; exact slice_fields hws 7 21 25 (by simp) (by simp))
  have rv : pyFloat (replaceDE (sliceFrom L.valFrom (specFourLine S ((a, b, c, d), v)))) = some v := by
    rw [hv, sliceFrom, specFourLine, drop_fields hws 9 29 (by simp)]
    simp only [specFourPieces, List.drop_succ_cons, List.drop_zero, List.flatten_cons, List.flatten_nil, List.append_nil,
      rjust, List.append_assoc, replaceDE_append, replaceDE_spaces]
    exact pyFloat_D _ v _ _ (allWs_spaces _) allWs_nl
  unfold fourLine
  rw [r0, r1, r2, r3, rv]

theorem startsWith_specFourLine (S : Spec) (e : Helpers.Idx × Num) :
    startsWith [' ','I','='] (specFourLine S e) = true := by
  simp [startsWith, specFourLine, specFourPieces, List.isPrefixOf]

def fourAssigns (es : List (Helpers.Idx × Num)) : Assign4 :=
  es.flatMap (fun e => (orbit e.1).map (fun w => (w, e.2)))

theorem fourGo_spec (L : Layout) (S : Spec) (hL : LayoutOK L) (hw : S.idxW = 3) (n : Nat) (term : Str) (rest : List Str)
    (hterm : startsWith [' ','I','='] term = false) :
    ∀ es : List (Helpers.Idx × Num), (∀ e ∈ es, FitsFour S e ∧ e.1.1 < n ∧ e.1.2.1 < n ∧ e.1.2.2.1 < n ∧ e.1.2.2.2 < n) →
      fourGo L n (es.map (specFourLine S) ++ term :: rest) = .ok (fourAssigns es, rest) := by
  have hpre : L.fourPrefix = [' ','I','='] := hL.2.2.2.1
  have hperm : L.fourPerm = [0, 2, 1, 3] := hL.2.2.2.2.2.2.2.2.2
  intro es; induction es with
  | nil => intro _; simp [fourGo, hpre, hterm, fourAssigns]
  | cons e es ih =>
    intro h
    obtain ⟨hfit, ha, hb, hc, hd⟩ := h e List.mem_cons_self
    have hrest := ih (fun x hx => h x (List.mem_cons_of_mem _ hx))
    obtain ⟨⟨a, b, c, d⟩, v⟩ := e
    simp only at ha hb hc hd
    simp only [List.map_cons, List.cons_append, fourGo, hpre, startsWith_specFourLine, if_true,
      fourLine_spec L S hL hw _ hfit, hperm, Helpers.applyPat, Helpers.pick, ha, hb, hc, hd, and_self, hrest,
      fourAssigns, List.flatMap_cons, orbit, phys]

theorem loadFour_spec (L : Layout) (S : Spec) (hL : LayoutOK L) (hw : S.idxW = 3) (n : Nat) (pre : List Str) (term : Str)
    (rest : List Str) (hpre : pre.length = 6) (hterm : startsWith [' ','I','='] term = false)
    (es : List (Helpers.Idx × Num))
    (h : ∀ e ∈ es, FitsFour S e ∧ e.1.1 < n ∧ e.1.2.1 < n ∧ e.1.2.2.1 < n ∧ e.1.2.2.2 < n) :
    loadFour L n (specFour S pre es term ++ rest) = .ok (fourAssigns es, rest) := by
  have hskip : L.fourSkip = 6 := hL.2.2.1
  unfold loadFour specFour
  rw [hskip]
  have hlen : ¬ (pre ++ (es.map (specFourLine S) ++ [term]) ++ rest).length < 6 := by
    simp only [List.length_append, hpre]; omega
  rw [if_neg hlen, List.append_assoc, List.drop_append_of_le_length (by omega), List.drop_of_length_le (by omega)]
  simpa using fourGo_spec L S hL hw n term rest hterm es h

/-- the array after reading: an element in the orbit of an entry holds that entry's value (entries whose orbits
meet must agree, as they do in a file that lists each unique integral once), everything else stays zero -/
theorem getA_fourAssigns (es : List (Helpers.Idx × Num)) (e : Helpers.Idx × Num) (he : e ∈ es) (p : Helpers.Idx)
    (hp : p ∈ orbit e.1) (hcons : ∀ e' ∈ es, p ∈ orbit e'.1 → e'.2 = e.2) :
    getA zero (fourAssigns es) p = e.2 := by
  apply getA_of_all
  · exact ⟨(p, e.2), List.mem_flatMap.mpr ⟨e, he, List.mem_map.mpr ⟨p, hp, rfl⟩⟩, rfl⟩
  · intro kv hkv hkp
    obtain ⟨e', he', hm⟩ := List.mem_flatMap.mp hkv
    obtain ⟨w, hw, rfl⟩ := List.mem_map.mp hm
    simp only at hkp; subst hkp
    exact hcons e' he' hw

theorem getA_fourAssigns_zero (es : List (Helpers.Idx × Num)) (p : Helpers.Idx) (h : ∀ e ∈ es, p ∉ orbit e.1) :
    getA zero (fourAssigns es) p = zero := by
  apply getA_untouched
  intro kv hkv hkp
  obtain ⟨e', he', hm⟩ := List.mem_flatMap.mp hkv
  obtain ⟨w, hw, rfl⟩ := List.mem_map.mp hm
  simp only at hkp; subst hkp
  exact h e' he' hw

/-- the marker strings of the source are the headings Gaussian prints -/
def MarkersOK (L : Layout) : Prop :=
  L.nbasisPrefix = [' ',' ',' ',' ','N','B','a','s','i','s',' ','='] ∧ L.nbasisSl = (12, 18) ∧
  L.termPrefix = [' ','N','o','r','m','a','l',' ','t','e','r','m','i','n','a','t','i','o','n',' ','o','f',' ','G','a','u','s','s','i','a','n'] ∧
  L.olp = [' ','*','*','*',' ','O','v','e','r','l','a','p',' ','*','*','*'] ∧
  L.kin = [' ','*','*','*',' ','K','i','n','e','t','i','c',' ','E','n','e','r','g','y',' ','*','*','*'] ∧
  L.na = [' ','*','*','*','*','*',' ','P','o','t','e','n','t','i','a','l',' ','E','n','e','r','g','y',' ','*','*','*','*','*'] ∧
  L.er = [' ','*','*','*',' ','D','u','m','p','i','n','g',' ','T','w','o','-','E','l','e','c','t','r','o','n',' ','i','n','t','e','g','r','a','l','s',' ','*','*','*']

instance (L : Layout) : Decidable (MarkersOK L) := by unfold MarkersOK; infer_instance

/-- a line that is none of the section headings nor the termination line -/
def plainLine (L : Layout) (l : Str) : Prop :=
  startsWith L.termPrefix l = false ∧ startsWith L.olp l = false ∧ startsWith L.kin l = false ∧
  startsWith L.na l = false ∧ startsWith L.er l = false

def SecOK (L : Layout) (S : Spec) (n : Nat) : Sec → Prop
  | .two k f => k < 3 ∧ ∀ r c, FitsTwo S (f r c)
  | .four pre es term => pre.length = 6 ∧ startsWith [' ','I','='] term = false ∧
      ∀ e ∈ es, FitsFour S e ∧ e.1.1 < n ∧ e.1.2.1 < n ∧ e.1.2.2.1 < n ∧ e.1.2.2.2 < n
  | .other l => plainLine L l

/-- what a section stores -/
def applySec (S : Spec) (n : Nat) (o : Obj) : Sec → Obj
  | .two 0 f => { o with olp := some (allAssigns S f n) }
  | .two 1 f => { o with kin := some (allAssigns S f n) }
  | .two _ f => { o with na := some (allAssigns S f n) }
  | .four _ es _ => { o with er := some (fourAssigns es) }
  | .other _ => o

/-- one turn of the `while True:` loop per section: the heading is recognised, the section's reader consumes exactly
its lines, and the loop goes on with what the section stores -/
theorem mainGo_sec (L : Layout) (S : Spec) (hL : LayoutOK L) (hM : MarkersOK L) (hP : S.perBlock = 5) (hw : S.idxW = 3)
    (n : Nat) (s : Sec) (hs : SecOK L S n s) (g : Nat) (rest : List Str) (o : Obj) :
    mainGo L n (g + 1) (Sec.lines S n s ++ rest) o = mainGo L n g rest (applySec S n o s) := by
  obtain ⟨_, _, ht, ho, hk, hn, he⟩ := hM
  cases s with
  | other l =>
    obtain ⟨p1, p2, p3, p4, p5⟩ := hs
    simp only [Sec.lines, List.cons_append, List.nil_append, mainGo, p1, p2, p3, p4, p5, Bool.false_eq_true, if_false, applySec]
  | four pre es term =>
    obtain ⟨q1, q2, q3⟩ := hs
    have fe : startsWith L.termPrefix erMarkerLine = false ∧ startsWith L.olp erMarkerLine = false ∧
        startsWith L.kin erMarkerLine = false ∧ startsWith L.na erMarkerLine = false ∧
        startsWith L.er erMarkerLine = true := by rw [ht, ho, hk, hn, he]; decide
    simp only [Sec.lines, List.cons_append, mainGo, fe.1, fe.2.1, fe.2.2.1, fe.2.2.2.1, fe.2.2.2.2, Bool.false_eq_true,
      if_false, if_true, loadFour_spec L S hL hw n pre term rest q1 q2 es q3, applySec]
  | two k f =>
    obtain ⟨hk3, hfit⟩ := hs
    have f0 : startsWith L.termPrefix (markerLine 0) = false ∧ startsWith L.olp (markerLine 0) = true := by
      rw [ht, ho]; decide
    have f1 : startsWith L.termPrefix (markerLine 1) = false ∧ startsWith L.olp (markerLine 1) = false ∧
        startsWith L.kin (markerLine 1) = true := by rw [ht, ho, hk]; decide
    have f2 : startsWith L.termPrefix (markerLine 2) = false ∧ startsWith L.olp (markerLine 2) = false ∧
        startsWith L.kin (markerLine 2) = false ∧ startsWith L.na (markerLine 2) = true := by rw [ht, ho, hk, hn]; decide
    obtain rfl | rfl | rfl : k = 0 ∨ k = 1 ∨ k = 2 := by omega
    all_goals
      simp only [Sec.lines, List.cons_append, mainGo, f0.1, f0.2, f1.1, f1.2.1, f1.2.2, f2.1, f2.2.1, f2.2.2.1, f2.2.2.2,
        Bool.false_eq_true, if_false, if_true, loadTwo_spec L S n f rest hL.1 hL.2.1 hP hfit, applySec]

theorem mainGo_spec (L : Layout) (S : Spec) (hL : LayoutOK L) (hM : MarkersOK L) (hP : S.perBlock = 5) (hw : S.idxW = 3)
    (n : Nat) (post : List Str) : ∀ (secs : List Sec) (fuel : Nat) (o : Obj), (∀ s ∈ secs, SecOK L S n s) →
    (secs.flatMap (Sec.lines S n)).length < fuel →
    mainGo L n fuel (secs.flatMap (Sec.lines S n) ++ termLine :: post) o = .ok (secs.foldl (applySec S n) o) := by
  intro secs; induction secs with
  | nil =>
    intro fuel o _ hf
    have t_term : startsWith L.termPrefix termLine = true := by rw [hM.2.2.1]; decide
    cases fuel with
    | zero => exact absurd hf (Nat.not_lt_zero _)
    | succ g => simp only [List.flatMap_nil, List.nil_append, mainGo, t_term, if_true, List.foldl_nil]
  | cons s secs ih =>
    intro fuel o hs hf
    rw [List.flatMap_cons, List.length_append] at hf
    cases fuel with
    | zero => exact absurd hf (Nat.not_lt_zero _)
    | succ g =>
      rw [List.flatMap_cons, List.append_assoc, mainGo_sec L S hL hM hP hw n s (hs s List.mem_cons_self), List.foldl_cons]
      have hpos : 0 < (Sec.lines S n s).length := by cases s <;> simp [Sec.lines]
      exact ih g _ (fun x hx => hs x (List.mem_cons_of_mem _ hx)) (by omega)

theorem findNBasis_spec (L : Layout) (hM : MarkersOK L) (n : Nat) (hn : (natToDec n).length ≤ 4) (rest : List Str) :
    ∀ pre : List Str, (∀ l ∈ pre, startsWith L.nbasisPrefix l = false) →
      findNBasis L (pre ++ nbasisLine n :: rest) = .ok (n, rest) := by
  obtain ⟨hp, hs, _⟩ := hM
  intro pre; induction pre with
  | nil =>
    intro _
    have h1 : startsWith L.nbasisPrefix (nbasisLine n) = true := by
      rw [hp]; simp [startsWith, nbasisLine, List.isPrefixOf]
    have h2 : slice 12 18 (nbasisLine n) = rjust 4 (natToDec n) ++ [' ', ' '] := by
      simp [slice, nbasisLine, List.take_append, length_rjust 4 _ hn]
      exact List.take_of_length_le (by rw [length_rjust 4 _ hn]; decide)
    simp only [List.nil_append, findNBasis, h1, if_true, hs, h2, pyInt_rjust 4 n _ (by decide : AllWs [' ', ' '])]
  | cons l pre ih =>
    intro h
    simp only [List.cons_append, findNBasis, h l List.mem_cons_self, Bool.false_eq_true, if_false]
    exact ih (fun x hx => h x (List.mem_cons_of_mem _ hx))

/-- C03 for Gaussian logs: a whole log in the published layout loads as the sections it prints -/
theorem load_spec (L : Layout) (S : Spec) (hL : LayoutOK L) (hM : MarkersOK L) (hP : S.perBlock = 5) (hw : S.idxW = 3)
    (pre : List Str) (n : Nat) (secs : List Sec) (post : List Str)
    (hpre : ∀ l ∈ pre, startsWith L.nbasisPrefix l = false) (hn : (natToDec n).length ≤ 4)
    (hs : ∀ s ∈ secs, SecOK L S n s) :
    load L (specFile S pre n secs post) = .ok (secs.foldl (applySec S n) ⟨n, none, none, none, none⟩) := by
  unfold load specFile
  rw [findNBasis_spec L hM n hn _ pre hpre]
  simp only
  exact mainGo_spec L S hL hM hP hw n post secs _ _ hs (by rw [List.length_append, List.length_cons]; omega)

end Iodata.FmtR.GLog
