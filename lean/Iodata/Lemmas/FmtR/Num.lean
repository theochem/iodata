/- `float(render x) = x` for every exact decimal and every print style (Fortran D/E, with or without
leading zero, plain fixed point), any blank padding; and lines of right-justified fields, which the reader
formats share. -/
import Iodata.Lemmas.Fmt.Fields
import Iodata.Lemmas.DecimalSci
import Iodata.Model.FmtR.Num
namespace Iodata.FmtR
open Iodata.Chars Iodata.Decimal Iodata.Fmt

theorem natToDec_eq_one (k : Nat) : natToDec k = ['1'] ↔ k = 1 := by
  constructor
  · intro h
    have := decToNat_natToDec k
    rw [h] at this
    have h1 : decToNat? ['1'] = some 1 := by decide
    rw [h1] at this
    exact (Option.some.inj this).symm
  · rintro rfl; decide

theorem ipStr_val (st : Style) (man : Nat) : digitsValGo 0 (ipStr st man) = some (man / 10 ^ st.d) := by
  unfold ipStr; split
  · rename_i h; simp [digitsValGo, h.1]
  · exact digitsVal_natToDec _

theorem ipStr_allDigits (st : Style) (man : Nat) : AllDigits (ipStr st man) := by
  unfold ipStr; split
  · intro c h; cases h
  · exact allDigits_natToDec _

theorem expPart_expStr (c : Char) (hc : c = 'E' ∨ c = 'e') (e : Int) : expPart (c :: expStr e) = some e := by
  have hce : (c == 'E' || c == 'e') = true := by rcases hc with h | h <;> subst h <;> decide
  obtain ⟨ds, hs, hv⟩ := splitSign_expStr e
  simp only [expPart, hce, if_true, hs, hv]
  by_cases he : e < 0 <;> simp only [he, decide_true, decide_false, if_true, Bool.false_eq_true, if_false] <;>
    (congr 1; omega)

theorem StyleOK.echNoWs {st : Style} {x : Num} (h : StyleOK st x) : ∀ c, st.ech = some c → isWs c = false := by
  intro c hc
  have := h.2; rw [hc] at this
  rcases this with h | h <;> subst h <;> decide

theorem renderNum_noWs' (st : Style) (x : Num) (h : ∀ c, st.ech = some c → isWs c = false) : NoWs (renderNum st x) := by
  have he : NoWs (expTxt st x) := by
    unfold expTxt
    cases he : st.ech with
    | none => exact noWs_nil
    | some c => exact noWs_cons (h c he) (expStr_noWs _)
  unfold renderNum
  refine noWs_append ?_ (noWs_append (ipStr_allDigits _ _).noWs
    (noWs_cons (by decide) (noWs_append (allDigits_digitsW _ _).noWs he)))
  split
  · exact noWs_cons (by decide) noWs_nil
  · exact noWs_nil

theorem renderNum_noWs (st : Style) (x : Num) (h : StyleOK st x) : NoWs (renderNum st x) :=
  renderNum_noWs' st x h.echNoWs

theorem renderNum_ne_nil (st : Style) (x : Num) : renderNum st x ≠ [] := by
  unfold renderNum; cases x.neg <;> simp

theorem splitSign_body (st : Style) (x : Num) (tail : Str) :
    splitSign (ipStr st x.man ++ ('.' :: tail)) = (false, ipStr st x.man ++ ('.' :: tail)) := by
  cases e : ipStr st x.man with
  | nil => simp [splitSign]
  | cons c r =>
    have hc : c ∈ digitChars := by
      have := ipStr_allDigits st x.man; rw [e] at this; exact this c List.mem_cons_self
    exact splitSign_digits _ ⟨c, r ++ '.' :: tail, rfl, hc⟩

/-- What `pyFloat` does once the text is stripped and the sign taken off (the statement is that part of its body):
shared by the two signs in `pyFloat_renderNum`. -/
theorem parse_body (st : Style) (x : Num) (h : StyleOK st x) (neg : Bool) :
    (let u := ipStr st x.man ++ ('.' :: (digitsW st.d (x.man % 10 ^ st.d) ++ expTxt st x))
     let ip := u.takeWhile isDigitA
     let fr := fracPart (u.dropWhile isDigitA)
     if ip.isEmpty && fr.1.isEmpty then none else
     match digitsVal (ip ++ fr.1), expPart fr.2 with
     | some m, some e => some (⟨neg, m, e - (fr.1.length : Int)⟩ : Num)
     | _, _ => none) = some ⟨neg, x.man, x.exp⟩ := by
  have hip := takeWhile_run isDigitA (ipStr st x.man) (digitsW st.d (x.man % 10 ^ st.d) ++ expTxt st x) '.'
    (ipStr_allDigits _ _).digitA (by decide)
  obtain ⟨hfp, hexp⟩ : ((digitsW st.d (x.man % 10 ^ st.d) ++ expTxt st x).takeWhile isDigitA = digitsW st.d (x.man % 10 ^ st.d)
      ∧ (digitsW st.d (x.man % 10 ^ st.d) ++ expTxt st x).dropWhile isDigitA = expTxt st x)
      ∧ expPart (expTxt st x) = some (x.exp + st.d) := by
    have h2 := h.2
    unfold expTxt
    generalize st.ech = o at h2 ⊢
    cases o with
    | none =>
      refine ⟨by simpa using takeWhile_all isDigitA _ (allDigits_digitsW _ _).digitA, ?_⟩
      simp only [expPart]; congr 1; simp only at h2; omega
    | some c =>
      exact ⟨takeWhile_run isDigitA _ _ c (allDigits_digitsW _ _).digitA (by rcases h2 with h | h <;> subst h <;> decide),
        expPart_expStr c h2 _⟩
  have hval : digitsVal (ipStr st x.man ++ digitsW st.d (x.man % 10 ^ st.d)) = some x.man := by
    unfold digitsVal
    rw [digitsValGo_append, ipStr_val]
    simp only [Option.bind, digitsValGo_digitsW, Nat.mod_mod]
    congr 1
    exact Nat.div_add_mod' x.man (10 ^ st.d)
  have hne : ((ipStr st x.man).isEmpty && (digitsW st.d (x.man % 10 ^ st.d)).isEmpty) = false := by
    rw [Bool.and_eq_false_iff, List.isEmpty_eq_false_iff, List.isEmpty_eq_false_iff]
    rcases h.1 with hl | hd
    · left; unfold ipStr; simp only [hl, Bool.true_eq_false, and_false, if_false]; exact natToDec_ne_nil _
    · right; exact List.ne_nil_of_length_pos (by rw [length_digitsW]; exact hd)
  simp only [hip.1, hip.2, fracPart, hfp.1, hfp.2, hne, Bool.false_eq_true, if_false, hval, hexp, length_digitsW]
  congr 2; omega

theorem pyFloat_renderNum (st : Style) (x : Num) (h : StyleOK st x) (p q : Str) (hp : AllWs p) (hq : AllWs q) :
    pyFloat (p ++ (renderNum st x ++ q)) = some x := by
  unfold pyFloat
  rw [strip_noWs_pad p _ q hp hq (renderNum_noWs st x h)]
  obtain ⟨neg, man, exp⟩ := x
  cases neg with
  | true =>
    simp only [renderNum, if_true, List.singleton_append, splitSign_neg]
    exact parse_body st ⟨true, man, exp⟩ h true
  | false =>
    simp only [renderNum, Bool.false_eq_true, if_false, List.nil_append, splitSign_body st ⟨false, man, exp⟩]
    exact parse_body st ⟨false, man, exp⟩ h false

theorem pyFloat_bare (st : Style) (x : Num) (h : StyleOK st x) : pyFloat (renderNum st x) = some x := by
  simpa using pyFloat_renderNum st x h [] [] allWs_nil allWs_nil

theorem styleOK_fixed (d : Nat) (x : Num) (h : x.exp = -(d : Int)) : StyleOK ⟨d, true, none⟩ x := ⟨Or.inl rfl, h⟩

theorem styleOK_E (d : Nat) (l : Bool) (x : Num) (h : l = true ∨ 0 < d) : StyleOK ⟨d, l, some 'E'⟩ x :=
  ⟨h, Or.inl rfl⟩

/-- A line of right-justified fields splits into exactly the fields: every field but the first is narrower than its
column, so a blank separates it from the one before. -/
theorem splitWs_rjust_fields (fs : List (Nat × Str)) (hok : ∀ f ∈ fs, NoWs f.2 ∧ f.2 ≠ [])
    (hsep : ∀ f ∈ fs.tail, f.2.length < f.1) :
    splitWs ((fs.map fun f => rjust f.1 f.2).flatten ++ ['\n']) = fs.map (·.2) := by
  let xs : List Padded := fs.map fun f => rjustP f.1 f.2
  have e : (fs.map fun f => rjust f.1 f.2) = xs.map Padded.render := by
    rw [List.map_map]; exact List.map_congr_left fun f _ => (render_rjustP _ _).symm
  rw [e, splitWs_line xs (List.forall_mem_map.mpr fun f hf => rjustP_ok _ (hok f hf).1 (hok f hf).2) ?_, List.map_map]
  · rfl
  · intro x hx
    rw [← List.map_tail] at hx
    obtain ⟨f, hf, rfl⟩ := List.mem_map.mp hx
    exact rjustP_pre_ne_nil (hsep f hf)

theorem replaceDE_of_no_D (s : Str) (h : 'D' ∉ s) : replaceDE s = s := by
  unfold replaceDE
  induction s with
  | nil => rfl
  | cons c s ih =>
    simp only [List.map_cons, head_beq_false h, Bool.false_eq_true, if_false]
    rw [ih (fun hx => h (List.mem_cons_of_mem _ hx))]

theorem replaceDE_renderNum (d : Nat) (l : Bool) (x : Num) :
    replaceDE (renderNum ⟨d, l, some 'D'⟩ x) = renderNum ⟨d, l, some 'E'⟩ x := by
  have hsign : replaceDE (if x.neg then ['-'] else []) = (if x.neg then ['-'] else []) := by
    cases x.neg <;> rfl
  have h1 := replaceDE_of_no_D _ (ipStr_allDigits ⟨d, l, some 'D'⟩ x.man).no_D
  have h2 := replaceDE_of_no_D _ (allDigits_digitsW d (x.man % 10 ^ d)).no_D
  have h3 := replaceDE_of_no_D _ (expStr_no_D (x.exp + d))
  unfold replaceDE at *
  simp only [renderNum, expTxt, List.map_append, List.map_cons, hsign, h2, h3]
  have : ipStr ⟨d, l, some 'D'⟩ x.man = ipStr ⟨d, l, some 'E'⟩ x.man := rfl
  rw [← this, h1]
  simp

end Iodata.FmtR
