/-
String literals against explicit character lists.

The kernel reduces `"…".toList` by running the UTF-8 decoder, a well-founded recursion that is very slow in the kernel,
but it checks `String.ofList ['a', …] = "a…"` by expanding the literal.  Turning an equation between a character list
and `s.toList` into one between `String.ofList l` and `s` lets `simp only [eq_toList_iff, String.reduceOfList, …]` compare a generated
table of character lists with a reference written with string literals at the cost of reading both.  Where a literal
stands inside a statement that has to be evaluated, `simp only [toList_lit (by with_reducible rfl)]` spells it out
first: under `with_reducible` the unifier meets `"abc" =?= String.ofList ?l` and expands the literal.
-/
namespace Iodata.Chars

theorem eq_toList_iff (l : List Char) (s : String) : (l = s.toList) = (String.ofList l = s) :=
  propext ⟨fun h => h ▸ String.ofList_toList, fun h => h ▸ String.toList_ofList.symm⟩

theorem toList_eq_iff (s : String) (l : List Char) : (s.toList = l) = (s = String.ofList l) :=
  propext ⟨fun h => h ▸ String.ofList_toList.symm, fun h => h ▸ String.toList_ofList⟩

theorem toList_lit {s : String} {l : List Char} (h : s = String.ofList l) : s.toList = l :=
  (toList_eq_iff s l).mpr h

end Iodata.Chars
