/-
"Guaranteed ⇒ set" for the formats with a raw reader model: the predicates of the statements, the table of keys each
reader model returns, the step from the generated tables to a reader's object, and the witness files.
-/
import Iodata.Lemmas.C07Crd
import Iodata.Model.Select

namespace Iodata.Rd
open Iodata.Chars Iodata.Fmt

/-- `a` is a key of the result dictionary `o` (value not `None`); `false` for every name the model's object does
not represent (so a statement "`a` is a key" about such a name cannot be proved) -/
def hasKeyB (o : RObj) (a : Str) : Bool :=
  match accessor? a with
  | some f => f o
  | none => false

/-- `getattr(IOData(**o), a) is not None`; `false` for a name the model's object does not represent -/
def isSetB (o : RObj) (a : Str) : Bool :=
  match accessor? a with
  | some f => o.attrSet a f
  | none => false

/-- the `guaranteed` list that the source attaches to entry point `e` of module `m` (`none`: no such entry point) -/
def guaranteedOf (decl : List Iodata.Select.Declared) (m e : Str) : Option (List Str) :=
  (decl.find? fun d => d.module == m && d.entry == e).map (·.guaranteed)

/-- the keys of `o` are at least `B` and at most `B ++ S` -/
def KeysBetween (o : RObj) (B S : List Str) : Prop :=
  (∀ k ∈ B, k ∈ o.keys) ∧ (∀ k ∈ o.keys, k ∈ B ∨ k ∈ S)

def fXyz : Str := ['x','y','z']
def fSdf : Str := ['s','d','f']
def fMol2 : Str := ['m','o','l','2']
def fPdb : Str := ['p','d','b']
def fCube : Str := ['c','u','b','e']
def fGro : Str := ['g','r','o','m','a','c','s']
def fPoscar : Str := ['p','o','s','c','a','r']
def fChgcar : Str := ['c','h','g','c','a','r']
def fLocpot : Str := ['l','o','c','p','o','t']
/-- the CHARMM CRD reader lives in the module `charmm` -/
def fCrd : Str := ['c','h','a','r','m','m']
def eLoadOne : Str := ['l','o','a','d','_','o','n','e']
def eLoadMany : Str := ['l','o','a','d','_','m','a','n','y']

/-- `xyzB` … `crdB`: per format, the keys every object returned by the reader model has -/
def xyzB : List Str := [kAtcoords, kAtnums, kTitle]
def sdfB : List Str := [kAtcoords, kAtnums, kBonds, kTitle]
def mol2B : List Str := [kAtcoords, kAtnums, kAtcharges, kAtffparams, kTitle]
def pdbB : List Str := [kAtcoords, kAtnums, kAtffparams, kExtra, kTitle]
def cubeB : List Str := [kAtcoords, kAtnums, kAtcorenums, kCellvecs, kCube, kTitle]
def groB : List Str := [kAtcoords, kAtffparams, kCellvecs, kExtra, kTitle]
def poscarB : List Str := [kAtcoords, kAtnums, kCellvecs, kTitle]
def vaspGridB : List Str := [kAtcoords, kAtnums, kCellvecs, kCube, kTitle]
def crdB : List Str := [kAtcoords, kAtffparams, kAtmasses, kExtra, kTitle]

/-- (format, keys of every returned object, keys of some returned objects only) of the reader models;
`Props/C17Readers` proves each row about the model and compares the table with the one extracted from the source -/
def modelKeys : List (Str × List Str × List Str) :=
  [(fXyz, xyzB, []), (fSdf, sdfB, []), (fMol2, mol2B, [kBonds]), (fPdb, pdbB, [kBonds]), (fCube, cubeB, []),
   (fGro, groB, []), (fPoscar, poscarB, []), (fChgcar, vaspGridB, []), (fLocpot, vaspGridB, []),
   (fCrd, crdB, [])]

/-- same members -/
def sameSet (a b : List Str) : Bool := a.all (b.contains ·) && b.all (a.contains ·)

/-- every guaranteed name of the modelled modules' `load_one`/`load_many`, with the module and entry point -/
def guaranteedNames (decl : List Iodata.Select.Declared) : List (Str × Str × Str) :=
  (decl.filter fun d => (modelKeys.map (·.1)).contains d.module && [eLoadOne, eLoadMany].contains d.entry).flatMap
    fun d => d.guaranteed.map fun a => (d.module, d.entry, a)

/-- guaranteed names (of the modelled modules) that the model's result object does not represent -/
def uncovered (decl : List Iodata.Select.Declared) : List (Str × Str × Str) :=
  (guaranteedNames decl).filter fun t => (accessor? t.2.2).isNone

theorem lookup_of_mem {α β} [BEq α] [LawfulBEq α] {l : List (α × β)} (hn : (l.map (·.1)).Nodup)
    {a : α} {b : β} (h : (a, b) ∈ l) : l.lookup a = some b := by
  obtain ⟨l₁, l₂, rfl⟩ := List.append_of_mem h
  rw [List.map_append, List.map_cons, List.nodup_append] at hn
  exact List.lookup_eq_some_iff.mpr ⟨l₁, l₂, rfl, fun p hp =>
    bne_iff_ne.mpr fun e => hn.2.2 _ (List.mem_map_of_mem hp) _ List.mem_cons_self e.symm⟩

theorem accessors_nodup : (accessors.map (·.1)).Nodup := by decide +kernel

theorem mem_keys_iff (o : RObj) (a : Str) : a ∈ o.keys ↔ hasKeyB o a = true := by
  unfold RObj.keys hasKeyB accessor?
  constructor
  · intro h
    obtain ⟨p, hp, rfl⟩ := List.mem_map.mp h
    obtain ⟨hp, hpo⟩ := List.mem_filter.mp hp
    rw [lookup_of_mem accessors_nodup hp]
    exact hpo
  · intro h
    split at h
    · next f hf =>
      obtain ⟨l₁, l₂, hl, -⟩ := List.lookup_eq_some_iff.mp hf
      exact List.mem_map.mpr ⟨(a, f), List.mem_filter.mpr ⟨hl ▸ List.mem_append_right _ List.mem_cons_self, h⟩, rfl⟩
    · cases h

theorem isSet_of_hasKey (o : RObj) (a : Str) (h : hasKeyB o a = true) : isSetB o a = true := by
  unfold hasKeyB at h
  unfold isSetB
  split at h
  · next f hf => simp [RObj.attrSet, h]
  · cases h

theorem keysBetween_self {o : RObj} {B S : List Str} (h : o.keys = B) : KeysBetween o B S :=
  h ▸ ⟨fun _ hk => hk, fun _ hk => Or.inl hk⟩

theorem keysBetween_insert {o : RObj} {l1 l2 : List Str} {k : Str} (h : o.keys = l1 ++ k :: l2) :
    KeysBetween o (l1 ++ l2) [k] := by
  rw [KeysBetween, h]
  refine ⟨fun a ha => ?_, fun a ha => ?_⟩
  · rcases List.mem_append.mp ha with h | h
    · exact List.mem_append_left _ h
    · exact List.mem_append_right _ (List.mem_cons_of_mem _ h)
  · rcases List.mem_append.mp ha with h | h
    · exact Or.inl (List.mem_append_left _ h)
    · rcases List.mem_cons.mp h with rfl | h
      · exact Or.inr List.mem_cons_self
      · exact Or.inl (List.mem_append_right _ h)

open Iodata.Select (Declared)

theorem modelKeys_row (i : Nat) (h : i < modelKeys.length := by decide) : modelKeys[i] ∈ modelKeys :=
  List.getElem_mem h

theorem modelKeys_nodup : (modelKeys.map (·.1)).Nodup := by decide +kernel

theorem guaranteedOf_some {decl : List Declared} {m e : Str} {g : List Str} (h : guaranteedOf decl m e = some g) :
    ∃ d ∈ decl, d.module = m ∧ d.entry = e ∧ d.guaranteed = g := by
  unfold guaranteedOf at h
  obtain ⟨d, hd, rfl⟩ := Option.map_eq_some_iff.mp h
  have hp := List.find?_some hd
  simp only [Bool.and_eq_true, beq_iff_eq] at hp
  exact ⟨d, List.mem_of_find?_eq_some hd, hp.1, hp.2, rfl⟩

theorem guaranteedOf_isSome {decl : List Declared} {m e : Str}
    (h : ∃ t ∈ guaranteedNames decl, t.1 = m ∧ t.2.1 = e) : (guaranteedOf decl m e).isSome = true := by
  obtain ⟨t, ht, rfl, rfl⟩ := h
  simp only [guaranteedNames, List.mem_flatMap, List.mem_filter, List.mem_map] at ht
  obtain ⟨d, ⟨hd, -⟩, a, -, rfl⟩ := ht
  simp only [guaranteedOf, Option.isSome_map, List.find?_isSome]
  exact ⟨d, hd, by simp⟩

/-- **guaranteed ⇒ set**, from the tables: a guaranteed name of `F.e` is, by the source skeleton (`hsrc`), a key every
`load_one` dictionary carries; the source's table and the model's agree (`hrk`); and the object has the keys of the
model's row -/
theorem guaranteed_of_tables {decl : List Declared} {rk : List (Str × List Str × List Str)}
    (hsrc : ∀ d ∈ decl, ∀ r ∈ rk, d.module = r.1 → (d.entry = eLoadOne ∨ d.entry = eLoadMany) →
      ∀ a ∈ d.guaranteed, a ∈ r.2.1)
    (hrk : rk.map (·.1) = modelKeys.map (·.1) ∧
      ∀ r ∈ rk, ∃ m ∈ modelKeys, m.1 = r.1 ∧ sameSet r.2.1 m.2.1 = true ∧ sameSet r.2.2 m.2.2 = true)
    {F e : Str} {B S : List Str} {o : RObj} (he : e = eLoadOne ∨ e = eLoadMany) (hm : (F, B, S) ∈ modelKeys)
    (hk : ∀ k ∈ B, k ∈ o.keys) :
    ∀ a ∈ (guaranteedOf decl F e).getD [], hasKeyB o a = true ∧ isSetB o a = true := by
  intro a ha
  cases hg : guaranteedOf decl F e with
  | none => rw [hg] at ha; cases ha
  | some g =>
    rw [hg] at ha
    obtain ⟨d, hd, hdm, hde, rfl⟩ := guaranteedOf_some hg
    obtain ⟨r, hr, hrF⟩ := List.mem_map.mp (hrk.1 ▸ List.mem_map_of_mem (f := Prod.fst) hm)
    obtain ⟨⟨F', B', S'⟩, hmm, hm1, hsame, -⟩ := hrk.2 r hr
    cases (show F' = F from hm1.trans hrF)
    cases (lookup_of_mem modelKeys_nodup hmm).symm.trans (lookup_of_mem modelKeys_nodup hm)
    have har := hsrc d hd r hr (hdm.trans hrF.symm) (hde ▸ he) a ha
    simp only [sameSet, Bool.and_eq_true, List.all_eq_true, List.contains_iff_mem] at hsame
    have hkey := (mem_keys_iff o a).mp (hk a (hsame.1 a har))
    exact ⟨hkey, isSet_of_hasKey o a hkey⟩

/-! ### witness files (non-vacuity examples of `Props/C17Readers`) -/

/-- the reader returned an object with exactly the keys `keys`, the constructor accepts it, `m.e` is a declared
entry point and every name of its guaranteed list is a key of the object and set on the constructed object -/
def witnessOk (decl : List Iodata.Select.Declared) (r : Out RObj) (m e : Str) (keys : List Str) : Bool :=
  match r.res with
  | .ok o =>
    o.keys == keys && ctorOk o && (guaranteedOf decl m e).isSome &&
      ((guaranteedOf decl m e).getD []).all fun a => hasKeyB o a && isSetB o a
  | .error _ => false

def xyzH2 : List Str :=
  [['2','\n'],
   ['h','y','d','r','o','g','e','n','\n'],
   ['H',' ','0','.','0',' ','0','.','0',' ','0','.','0','\n'],
   ['h',' ','0','.','0',' ','0','.','0',' ','0','.','7','4','\n']]

def sdfIon : List Str :=
  [['x','\n'],
   ['\n'],
   ['\n'],
   [' ',' ','1',' ',' ','0',' ','v','2','0','0','0','\n'],
   [' ',' ',' ',' ','1','.','0',' ',' ',' ',' ',' ',' ',' ','2','.','0',' ',' ',' ',' ',' ',' ',' ','3','.','0',' ',' ',' ',' ','c','l','\n'],
   ['M',' ',' ','E','N','D','\n'],
   ['$','$','$','$','\n']]

def sdfOH : List Str :=
  [['o','h','\n'],
   ['\n'],
   ['\n'],
   [' ',' ','2',' ',' ','1',' ',' ','0',' ',' ','0',' ',' ','0',' ',' ','0',' ',' ','0',' ',' ','0',' ',' ','0',' ',' ','0','9','9','9',' ','V','2','0','0','0','\n'],
   [' ',' ',' ',' ','0','.','0','0','0','0',' ',' ',' ',' ','0','.','0','0','0','0',' ',' ',' ',' ','0','.','1','0','0','0',' ','O',' ',' ',' ','0','\n'],
   [' ',' ',' ',' ','0','.','7','0','0','0',' ',' ',' ',' ','0','.','0','0','0','0',' ',' ',' ','-','0','.','4','0','0','0',' ','H',' ',' ',' ','0','\n'],
   [' ',' ','1',' ',' ','2',' ',' ','1',' ',' ','0','\n'],
   ['M',' ',' ','E','N','D','\n'],
   ['$','$','$','$','\n']]

def mol2NoBond : List Str :=
  [['@','<','T','R','I','P','O','S','>','M','O','L','E','C','U','L','E','\n'],
   ['m','\n'],
   [' ','1',' ','0','\n'],
   ['@','<','T','R','I','P','O','S','>','A','T','O','M','\n'],
   [' ','1',' ','C','L','1',' ','1','.','0',' ','2','.','0',' ','3','.','0',' ','C','l','\n']]

def mol2Bond : List Str :=
  [['@','<','T','R','I','P','O','S','>','M','O','L','E','C','U','L','E','\n'],
   ['m','\n'],
   [' ','2',' ','1','\n'],
   ['@','<','T','R','I','P','O','S','>','A','T','O','M','\n'],
   [' ','1',' ','O','1',' ','0',' ','0',' ','0','.','1',' ','O','.','3',' ','1',' ','W',' ','-','0','.','4','\n'],
   [' ','2',' ','H','1',' ','0','.','7',' ','0',' ','-','0','.','4',' ','H',' ','1',' ','W',' ','0','.','4','\n'],
   ['@','<','T','R','I','P','O','S','>','B','O','N','D','\n'],
   [' ','1',' ','1',' ','2',' ','1','\n']]

def pdbNoBond : List Str :=
  [['A','T','O','M',' ',' ',' ',' ',' ',' ','1',' ','C','L',' ',' ',' ','U','N','K',' ',' ',' ',' ',' ','1',' ',' ',' ',' ',' ',' ',' ','1','.','0','0','0',' ',' ',' ','2','.','0','0','0',' ',' ',' ','3','.','0','0','0',' ',' ','0','.','5','0',' ','1','0','.','0','0','\n'],
   ['E','N','D','\n']]

def pdbBond : List Str :=
  [['H','E','T','A','T','M',' ',' ',' ',' ','1',' ',' ','O',' ',' ',' ','H','O','H',' ','A',' ',' ',' ','1',' ',' ',' ',' ',' ',' ',' ','0','.','0','0','0',' ',' ',' ','0','.','0','0','0',' ',' ',' ','0','.','1','0','0',' ',' ','1','.','0','0',' ',' ','0','.','0','0',' ',' ',' ',' ',' ',' ',' ',' ',' ',' ',' ','O',' ',' ','\n'],
   ['H','E','T','A','T','M',' ',' ',' ',' ','2',' ',' ','H','1',' ',' ','H','O','H',' ','A',' ',' ',' ','1',' ',' ',' ',' ',' ',' ',' ','0','.','7','0','0',' ',' ',' ','0','.','0','0','0',' ',' ','-','0','.','4','0','0',' ',' ','1','.','0','0',' ',' ','0','.','0','0',' ',' ',' ',' ',' ',' ',' ',' ',' ',' ',' ','H',' ',' ','\n'],
   ['C','O','N','E','C','T',' ',' ',' ',' ','1',' ',' ',' ',' ','2','\n'],
   ['E','N','D','\n']]

def cubeH : List Str :=
  [['t','\n'],
   ['c','\n'],
   [' ','1',' ','0',' ','0',' ','0','\n'],
   [' ','1',' ','1',' ','0',' ','0','\n'],
   [' ','1',' ','0',' ','1',' ','0','\n'],
   [' ','2',' ','0',' ','0',' ','1','\n'],
   [' ','1',' ','1','.','0',' ','0',' ','0',' ','0','\n'],
   [' ','1','.','5',' ','-','2','.','5','\n']]

def groSol : List Str :=
  [['n','o',' ','t','i','m','e','\n'],
   [' ','2','\n'],
   [' ',' ',' ',' ','1','S','O','L',' ',' ',' ',' ',' ','O','W',' ',' ',' ',' ','1',' ',' ',' ','1','.','0','0','0','0',' ',' ',' ','2','.','0','0','0','0',' ',' ',' ','3','.','0','0','0','0','\n'],
   [' ',' ',' ',' ','1','S','O','L',' ',' ',' ',' ','H','W','1',' ',' ',' ',' ','2',' ',' ',' ','1','.','1','0','0','0',' ',' ',' ','2','.','1','0','0','0',' ',' ',' ','3','.','1','0','0','0','\n'],
   [' ',' ',' ','1','.','0',' ','2','.','0',' ','3','.','0','\n']]

def poscarBN : List Str :=
  [['c','u','b','i','c',' ','B','N','\n'],
   [' ','3','.','5','7','\n'],
   [' ','0','.','0',' ','0','.','5',' ','0','.','5','\n'],
   [' ','0','.','5',' ','0','.','0',' ','0','.','5','\n'],
   [' ','0','.','5',' ','0','.','5',' ','0','.','0','\n'],
   [' ','B',' ','N','\n'],
   [' ','1',' ','1','\n'],
   ['S','e','l','e','c','t','i','v','e','\n'],
   ['C','a','r','t','e','s','i','a','n','\n'],
   [' ','0','.','0','0',' ','0','.','0','0',' ','0','.','0','0',' ','T',' ','T',' ','F','\n'],
   [' ','0','.','2','5',' ','0','.','2','5',' ','0','.','2','5',' ','F',' ','F',' ','F','\n']]

def chgcarO : List Str :=
  [['O',' ','a','t','o','m','\n'],
   [' ','1','.','0','\n'],
   [' ','1','0','.','0',' ','0','.','0',' ','0','.','0','\n'],
   [' ','0','.','0',' ','1','0','.','0',' ','0','.','0','\n'],
   [' ','0','.','0',' ','0','.','0',' ','1','0','.','0','\n'],
   [' ','O','\n'],
   [' ','1','\n'],
   ['D','i','r','e','c','t','\n'],
   [' ','0','.','0',' ','0','.','0',' ','0','.','0','\n'],
   [' ','\n'],
   [' ','2',' ','1',' ','2','\n'],
   [' ','0','.','7','8','E','+','0','4',' ','0','.','7','6','E','+','0','4',' ','0','.','6','9','E','+','0','4','\n'],
   [' ','0','.','5','7','E','+','0','4','\n'],
   ['a','u','g','m','e','n','t','a','t','i','o','n','\n']]

def crdTwo : List Str :=
  [['*',' ','t','w','o',' ','a','t','o','m','s','\n'],
   ['*','\n'],
   [' ',' ',' ',' ','2','\n'],
   [' ','1',' ','1',' ','T','H','R',' ','N',' ','-','3','.','8','5',' ','-','7','.','0','4',' ','4','.','6','2',' ','M','A','I','N',' ','1',' ','1','4','.','0','0','7','\n'],
   [' ','2',' ','1',' ','T','H','R',' ','H','T','1',' ','-','4','.','1','5',' ','-','6','.','5','6',' ','5','.','4','9',' ','M','A','I','N',' ','1',' ','1','.','0','0','8','\n']]

end Iodata.Rd
