/- The load side of the API flow: the line counter of `LineIterator`, `load_one`, `load_many`. -/
import Iodata.Lemmas.Flow2

namespace Iodata.Flow
open Ref

/-- what `lineno` should be after the line operations of a trace: `next` calls minus `back` calls -/
def lineCount (tr : List Ev) : Int := (tr.count .next : Int) - (tr.count .back : Int)

/-- the line counter equals the number of `next` calls minus the number of `back` calls so far -/
def LineInv (st : St) : Prop := st.lit.lineno = lineCount st.trace

/-- what may stand in the trace between the `open` of the file that is read and its `close` -/
def LoadEvs (evs : List Ev) : Prop := ∀ ev ∈ evs, ev ≠ .openR ∧ ev ≠ .close ∧ ev ≠ .openW

theorem LoadEvs.append {a b : List Ev} (ha : LoadEvs a) (hb : LoadEvs b) : LoadEvs (a ++ b) :=
  List.forall_mem_append.mpr ⟨ha, hb⟩

theorem lineCount_cons_other (e : Ev) (tr : List Ev) (h1 : e ≠ .next) (h2 : e ≠ .back) :
    lineCount (e :: tr) = lineCount tr := by
  unfold lineCount
  rw [List.count_cons, List.count_cons]
  have a : (e == Ev.next) = false := by simpa using h1
  have b : (e == Ev.back) = false := by simpa using h2
  simp [a, b]

theorem lineCount_next (tr : List Ev) : lineCount (.next :: tr) = lineCount tr + 1 := by
  unfold lineCount; rw [List.count_cons, List.count_cons]; simp; omega

theorem lineCount_back (tr : List Ev) : lineCount (.back :: tr) = lineCount tr - 1 := by
  unfold lineCount; rw [List.count_cons, List.count_cons]; simp; omega

/-- After any sequence of `next` / `back` calls (including a `next` that hits the
end of the file) `lineno = #next − #back`. -/
theorem runOps_spec (ops : List Bool) (l : LineIt) (tr : List Ev) (h : l.lineno = lineCount tr) :
    (runOps ops l tr).2.1.lineno = lineCount (runOps ops l tr).2.2 ∧
    ∃ evs, (runOps ops l tr).2.2 = evs ++ tr ∧ LoadEvs evs := by
  have one (e : Ev) (he : e ≠ .openR ∧ e ≠ .close ∧ e ≠ .openW) : LoadEvs [e] := List.forall_mem_singleton.mpr he
  induction ops generalizing l tr with
  | nil => exact ⟨h, [], rfl, List.forall_mem_nil _⟩
  | cons o ops ih =>
    cases o with
    | true =>
      simp only [runOps]
      have hn : (l.next).2.lineno = lineCount (.next :: tr) := by
        rw [lineCount_next, ← h]; unfold LineIt.next; dsimp only; split
        · rfl
        · split <;> rfl
      rcases hnx : l.next with ⟨ok, l'⟩
      rw [hnx] at hn
      cases ok with
      | true =>
        obtain ⟨h1, evs, h2, h3⟩ := ih l' (.next :: tr) hn
        exact ⟨h1, evs ++ [.next], by rw [h2, List.append_assoc]; rfl, h3.append (one _ (by simp))⟩
      | false => exact ⟨hn, [.next], rfl, one _ (by simp)⟩
    | false =>
      simp only [runOps]
      have hb : l.back.lineno = lineCount (.back :: tr) := by
        rw [lineCount_back, ← h]; rfl
      obtain ⟨h1, evs, h2, h3⟩ := ih l.back (.back :: tr) hb
      exact ⟨h1, evs ++ [.back], by rw [h2, List.append_assoc]; rfl, h3.append (one _ (by simp))⟩

/-- relation between the state before and after a piece of the load phase -/
structure Step (s s' : St) : Prop where
  fs : s'.fs = s.fs
  inv : LineInv s'
  tr : ∃ evs, s'.trace = evs ++ s.trace ∧ LoadEvs evs
  yields : s.yields ≤ s'.yields

theorem Step.refl {s : St} (h : LineInv s) : Step s s :=
  ⟨rfl, h, ⟨[], rfl, List.forall_mem_nil _⟩, Nat.le_refl _⟩

theorem Step.trans {a b c : St} (h1 : Step a b) (h2 : Step b c) : Step a c := by
  obtain ⟨e1, t1, l1⟩ := h1.tr
  obtain ⟨e2, t2, l2⟩ := h2.tr
  exact ⟨h2.fs.trans h1.fs, h2.inv, ⟨e2 ++ e1, by rw [t2, t1, List.append_assoc], l2.append l1⟩,
    Nat.le_trans h1.yields h2.yields⟩

theorem Step.cons_ev {s : St} (e : Ev) (h : LineInv s) (h1 : e ≠ .next) (h2 : e ≠ .back)
    (h3 : e ≠ .openR ∧ e ≠ .close ∧ e ≠ .openW) (y : Nat) (hy : s.yields ≤ y) :
    Step s { s with trace := e :: s.trace, yields := y } :=
  ⟨rfl, Eq.trans h (lineCount_cons_other e s.trace h1 h2).symm, ⟨[e], rfl, List.forall_mem_singleton.mpr h3⟩, hy⟩

/-- what a piece of the load phase below the handlers can end in -/
def Plain (o : Out) : Prop := o = .normal ∨ o = .ret ∨ ∃ e, o = .raised e none

theorem Plain.normal : Plain .normal := Or.inl rfl
theorem Plain.ret : Plain .ret := Or.inr (Or.inl rfl)
theorem Plain.raised (e : Exc) : Plain (.raised e none) := Or.inr (Or.inr ⟨e, rfl⟩)

/-- `r` is the result of a piece of the load phase below the handlers, started in `s` -/
def Ran (s : St) (r : Res) : Prop := Step s r.2 ∧ Plain r.1

theorem Ran.raiseB {s : St} (h : LineInv s) (o : Option Exc) : Ran s (raiseB o s) := by
  cases o
  · exact ⟨Step.refl h, .normal⟩
  · exact ⟨Step.refl h, .raised _⟩

theorem runItem_spec (g : Bool) (it : Item) (st : St) (h : LineInv st) : Ran st (runItem g it st) := by
  obtain ⟨h1, evs, h2, h3⟩ := runOps_spec it.ops st.lit st.trace h
  unfold runItem
  rcases hr : runOps it.ops st.lit st.trace with ⟨ok, l, tr⟩
  rw [hr] at h1 h2
  have hstep : Step st { st with lit := l, trace := tr, item := it } := ⟨rfl, h1, ⟨evs, h2, h3⟩, Nat.le_refl _⟩
  cases ok with
  | false => exact ⟨hstep, .raised _⟩
  | true => exact ⟨hstep.trans (Ran.raiseB hstep.inv _).1, (Ran.raiseB hstep.inv _).2⟩

/-- sequencing: the second statement runs only from a state that satisfies the invariant again -/
theorem Ran.bind {s : St} {r : Res} {k : St → Res} (hr : Ran s r) (hk : ∀ s', LineInv s' → Ran s' (k s')) :
    Ran s (match (generalizing := false) r with
      | (.normal, s') => k s'
      | r => r) := by
  obtain ⟨o, s1⟩ := r
  obtain ⟨hs, ho⟩ := hr
  rcases ho with rfl | rfl | ⟨e, rfl⟩
  · exact ⟨hs.trans (hk s1 hs.inv).1, (hk s1 hs.inv).2⟩
  · exact ⟨hs, .ret⟩
  · exact ⟨hs, .raised e⟩

theorem Ran.seq {env : Env} {a b : Stmt} {s : St} (ha : Ran s (exec env a s))
    (hb : ∀ s', LineInv s' → Ran s' (exec env b s')) : Ran s (exec env (.seq a b) s) :=
  Ran.bind ha hb

theorem Ran.parse (env : Env) (fn tgt : String) (args : List String) (s : St) (h : LineInv s) :
    Ran s (exec env (.call (.parse fn) args tgt) s) :=
  runItem_spec false _ s h

theorem Ran.ctor (env : Env) (args : List String) (tgt : String) (s : St) (h : LineInv s) :
    Ran s (exec env (.call .ctor args tgt) s) :=
  have hs := Step.cons_ev (s := s) .ctor h (by simp) (by simp) (by simp) s.yields (Nat.le_refl _)
  ⟨hs.trans (Ran.raiseB hs.inv s.item.ctor).1, (Ran.raiseB hs.inv s.item.ctor).2⟩

theorem Ran.ret (env : Env) (x : String) (s : St) (h : LineInv s) : Ran s (exec env (.ret x) s) :=
  ⟨Step.refl h, .ret⟩

/-- a sequence that ends in `return` does not end normally -/
theorem seq_ne_normal {env : Env} {a b : Stmt} {s : St} (hb : ∀ s', (exec env b s').1 ≠ .normal) :
    (exec env (.seq a b) s).1 ≠ .normal := by
  rw [exec_seq]
  rcases exec env a s with ⟨o, s1⟩
  cases o with
  | normal => exact hb s1
  | _ => nofun

/-- what the `load_one` funnel makes of an exception raised by the parser / the constructor -/
def funnelLoad (e : Exc) (lineno : Int) : Out :=
  if e = .load then .raised .load none
  else if e.isException then .raised .load (some lineno) else .raised e none

/-- the possible outcomes of the load funnels, given the final trace -/
def LoadOutcome (o : Out) (tr : List Ev) : Prop :=
  o = .normal ∨ o = .ret ∨ (∃ ln, o = .raised .load ln ∧ (ln = none ∨ ln = some (lineCount tr)))
    ∨ (∃ e, o = .raised e none ∧ e.isException = false)

theorem LoadOutcome.normal (tr : List Ev) : LoadOutcome .normal tr := Or.inl rfl
theorem LoadOutcome.ret (tr : List Ev) : LoadOutcome .ret tr := Or.inr (Or.inl rfl)
theorem LoadOutcome.load {ln : Option Int} (tr : List Ev) (h : ln = none ∨ ln = some (lineCount tr)) :
    LoadOutcome (.raised .load ln) tr := Or.inr (Or.inr (Or.inl ⟨ln, rfl, h⟩))
theorem LoadOutcome.passed {e : Exc} (tr : List Ev) (h : e.isException = false) :
    LoadOutcome (.raised e none) tr := Or.inr (Or.inr (Or.inr ⟨e, rfl, h⟩))

theorem funnelLoad_outcome (e : Exc) (st : St) (h : LineInv st) :
    LoadOutcome (funnelLoad e st.lit.lineno) (.close :: st.trace) := by
  have hl : lineCount (.close :: st.trace) = st.lit.lineno :=
    (lineCount_cons_other _ _ (by simp) (by simp)).trans h.symm
  unfold funnelLoad
  by_cases h1 : e = .load
  · rw [if_pos h1]; exact .load _ (Or.inl rfl)
  · rw [if_neg h1]
    by_cases h2 : e.isException = true
    · rw [if_pos h2, ← hl]; exact .load _ (Or.inr rfl)
    · rw [if_neg h2]; exact .passed _ (Bool.eq_false_iff.mpr h2)

/-- The common frame of `load_one` and `load_many`: selection and `open` succeeded, the body runs from the
freshly opened file, the handlers `hs` make `g e lineno` of an exception `e`, the file is closed.  The last
conjunct is what lets `load_one_master` exclude a normal end. -/
theorem exec_loadFrame (env : Env) (body : Stmt) (hs : Handlers) (g : Exc → Int → Out) (st : St)
    (hsel : env.b.select = none) (ho : env.b.openFail = none) (htr : st.trace = [])
    (hg : ∀ e s, ∃ s', execH env hs e none s = (g e s.lit.lineno, s') ∧ s'.fs = s.fs ∧ s'.trace = s.trace)
    (hgo : ∀ e s, LineInv s → LoadOutcome (g e s.lit.lineno) (.close :: s.trace))
    (hr : Ran (openFile env.path .r st) (exec env body (openFile env.path .r st))) :
    ∃ o st', (∀ attr tgt p v args,
        exec env (.seq (.call (.select attr) args tgt) (.withOpen .r p v (.try_ body hs))) st = (o, st')) ∧
      st'.fs = st.fs ∧ (∃ evs, st'.trace = .close :: (evs ++ [.openR]) ∧ LoadEvs evs) ∧
      LoadOutcome o st'.trace ∧
      (o = .normal → (exec env body (openFile env.path .r st)).1 = .normal ∨ ∃ e ln, g e ln = .normal) := by
  simp only [exec_seq, exec_call, execCall, hsel, raiseB, exec_withOpen_ok _ _ _ _ _ _ ho, exec_try]
  generalize exec env body (openFile env.path .r st) = r at hr
  obtain ⟨o1, s1⟩ := r
  obtain ⟨hstep, ho1⟩ := hr
  obtain ⟨evs, ht, hl⟩ := hstep.tr
  have ht' : s1.trace = evs ++ [.openR] := by rw [ht]; show evs ++ (Ev.openR :: st.trace) = _; rw [htr]
  rcases ho1 with rfl | rfl | ⟨e, rfl⟩
  · exact ⟨_, _, fun _ _ _ _ _ => rfl, hstep.fs, ⟨evs, congrArg _ ht', hl⟩, .normal _, Or.inl⟩
  · exact ⟨_, _, fun _ _ _ _ _ => rfl, hstep.fs, ⟨evs, congrArg _ ht', hl⟩, .ret _, Or.inl⟩
  · obtain ⟨s', hx, hfs', htr'⟩ := hg e s1
    simp only [hx]
    have hc : (closeRes (g e s1.lit.lineno, s')).2.trace = .close :: s1.trace := congrArg _ htr'
    exact ⟨_, _, fun _ _ _ _ _ => rfl, hfs'.trans hstep.fs, ⟨evs, hc.trans (congrArg _ ht'), hl⟩,
      hc ▸ hgo e s1 hstep.inv, fun h => Or.inr ⟨e, _, h⟩⟩

def loadOneHandlers : Handlers :=
  .cons (.cls [.load]) .reraise
    (.cons (.cls [.stopIter]) (.raise_ .load ["lit", "from exc"])
      (.cons .anyException (.raise_ .load ["lit", "from exc"]) .nil))

theorem execH_loadOne (env : Env) (e : Exc) (st : St) :
    ∃ st', execH env loadOneHandlers e none st = (funnelLoad e st.lit.lineno, st')
      ∧ st'.fs = st.fs ∧ st'.trace = st.trace := by
  cases e <;> exact ⟨_, rfl, rfl, rfl⟩

/-- `load_many` in addition takes `StopIteration` as the end of the generator -/
def funnelLoadMany (e : Exc) (lineno : Int) : Out := if e = .stopIter then .ret else funnelLoad e lineno

theorem execH_loadMany (env : Env) (e : Exc) (st : St) :
    ∃ st', execH env loadManyHandlers e none st = (funnelLoadMany e st.lit.lineno, st')
      ∧ st'.fs = st.fs ∧ st'.trace = st.trace := by
  cases e <;> exact ⟨_, rfl, rfl, rfl⟩

theorem lineInv_opened (path : Nat) (fs : FS) (n : Nat) :
    LineInv (openFile path .r { fs := fs, lit := { nlines := n } }) := rfl

theorem load_one_master (b : Beh) (path : Nat) (fs : FS) (hs : b.select = none) (ho : b.openFail = none) :
    ∃ o st', runLoadOne loadOne b path fs = (o, st') ∧ st'.fs = fs ∧
      (∃ evs, st'.trace = .close :: (evs ++ [.openR]) ∧ LoadEvs evs) ∧
      LoadOutcome o st'.trace ∧ o ≠ .normal := by
  obtain ⟨o, st', h, hfs, htr, hout, hn⟩ := exec_loadFrame { b := b, path := path } _ loadOneHandlers funnelLoad
    { fs := fs, lit := { nlines := b.nlines } } hs ho rfl
    (execH_loadOne _) funnelLoad_outcome
    (Ran.seq (Ran.parse _ _ _ _ _ (lineInv_opened path fs b.nlines)) fun _ h1 =>
      Ran.seq (Ran.ctor _ _ _ _ h1) fun _ h2 => Ran.ret _ _ _ h2)
  refine ⟨o, st', h _ _ _ _ _, hfs, htr, hout, fun ho => ?_⟩
  -- the body ends in `return`, and the funnel never ends normally
  rcases hn ho with h | ⟨e, ln, h⟩
  · exact absurd h (seq_ne_normal fun _ => seq_ne_normal fun _ => nofun)
  · unfold funnelLoad at h
    split at h
    · cases h
    · split at h <;> cases h

theorem exec_loadManyBody (env : Env) (s : St) (h : LineInv s) : Ran s (exec env loadManyBody s) := by
  refine Ran.seq (Ran.ctor env _ _ s h) fun s' h' => ?_
  have hy := Step.cons_ev (s := s') .yield h' (by simp) (by simp) (by simp) (s'.yields + 1) (Nat.le_succ _)
  simp only [exec]
  split
  · exact ⟨hy, .raised _⟩
  · exact ⟨hy, .normal⟩

theorem exec_loadManyLoop (env : Env) (v : String) (st : St) (h : LineInv st) :
    Ran st (exec env (.forEach .fmtMany v loadManyBody) st) := by
  rw [exec]
  refine Ran.bind ?_ fun s' h' => Ran.raiseB h' _
  generalize env.b.items = items
  induction items generalizing st with
  | nil => exact ⟨Step.refl h, .normal⟩
  | cons it items ih =>
    exact Ran.bind (Ran.bind (runItem_spec env.b.fmtIsGen it st h) (exec_loadManyBody env)) fun s' h' => ih s' h'

/-- at the boundary of the generator `GeneratorExit` ends it normally and PEP 479 applies: an outcome the
funnel allows stays one -/
theorem runLoadMany_of_exec {prog : Stmt} {b : Beh} {path : Nat} {fs : FS} {o : Out} {st : St} {tr : List Ev}
    (hq : b.quota ≠ some 0)
    (h : exec { b := b, path := path } prog { fs := fs, lit := { nlines := b.nlines } } = (o, st))
    (ho : LoadOutcome o tr) : ∃ o', runLoadMany prog b path fs = (o', st) ∧ LoadOutcome o' tr := by
  rw [runLoadMany, if_neg hq, h]
  rcases ho with rfl | rfl | ⟨ln, rfl, hln⟩ | ⟨e, rfl, he⟩
  · exact ⟨_, rfl, .normal _⟩
  · exact ⟨_, rfl, .ret _⟩
  · exact ⟨_, rfl, .load _ hln⟩
  · cases e with
    | base => exact ⟨_, rfl, .passed _ rfl⟩
    | genExit => exact ⟨_, rfl, .normal _⟩
    | _ => cases he

theorem load_many_master (b : Beh) (path : Nat) (fs : FS) (hs : b.select = none) (ho : b.openFail = none)
    (hq : b.quota ≠ some 0) :
    ∃ o st', runLoadMany loadMany b path fs = (o, st') ∧ st'.fs = fs ∧
      (∃ evs, st'.trace = .close :: (evs ++ [.openR]) ∧ LoadEvs evs) ∧
      LoadOutcome o st'.trace := by
  have hgo (e : Exc) (s : St) (h : LineInv s) : LoadOutcome (funnelLoadMany e s.lit.lineno) (.close :: s.trace) := by
    unfold funnelLoadMany
    split
    · exact .ret _
    · exact funnelLoad_outcome e s h
  obtain ⟨o, st', h, hfs, htr, hout, -⟩ := exec_loadFrame { b := b, path := path } _ loadManyHandlers funnelLoadMany
    { fs := fs, lit := { nlines := b.nlines } } hs ho rfl (execH_loadMany _) hgo
    (exec_loadManyLoop _ _ _ (lineInv_opened path fs b.nlines))
  obtain ⟨o', h', ho'⟩ := runLoadMany_of_exec (prog := loadMany) hq (h _ _ _ _ _) hout
  exact ⟨o', st', h', hfs, htr, ho'⟩

end Iodata.Flow
