/- For the helpers of `utils.py` (`Model/Helpers.lean`): the eight index patterns of `set_four_index_element` as a
group acting on the written positions; the specification-side definitions `Orb`, `compPat`, `negV`, `flipV`,
`gram1..3`; `min`/`max` of `check_dm` and the dictionary lookup of `strtobool` characterised. -/
import Iodata.Model.Helpers
import Iodata.Gen.Helpers
import Mathlib.Tactic.Ring
import Mathlib.Tactic.Linarith
import Mathlib.Algebra.Order.Field.Rat


namespace Iodata.Helpers
open Iodata.Gen.Helpers

/-- The orbit of `x` under the group generated by the electron swap and the two real-orbital swaps. -/
inductive Orb (x : Idx) : Idx → Prop
  | base : Orb x x
  | e {p : Idx} : Orb x p → Orb x (swapE p)
  | s1 {p : Idx} : Orb x p → Orb x (swap1 p)
  | s2 {p : Idx} : Orb x p → Orb x (swap2 p)

/-- composition of index patterns: `applyPat (applyPat x q) p = applyPat x (compPat p q)` -/
def compPat (p q : List Nat) : List Nat := p.map (fun a => q.getD a 0)

lemma pick_applyPat (x : Idx) (q0 q1 q2 q3 a : Nat) (ha : a < 4) :
    pick (pick x q0, pick x q1, pick x q2, pick x q3) a = pick x ([q0, q1, q2, q3].getD a 0) := by
  match a, ha with
  | 0, _ | 1, _ | 2, _ | 3, _ => rfl

/-- `compPat` is composition of index shuffles, for any two patterns of four slot numbers -/
lemma applyPat_applyPat (x : Idx) (p q : List Nat) (hp : p.length = 4) (hq : q.length = 4) (h4 : ∀ a ∈ p, a < 4) :
    applyPat (applyPat x q) p = applyPat x (compPat p q) := by
  match p, hp, q, hq with
  | [a, b, c, d], _, [q0, q1, q2, q3], _ =>
    simp only [List.mem_cons, List.not_mem_nil, or_false, forall_eq_or_imp, forall_eq] at h4
    simp only [applyPat, compPat, List.map, pick_applyPat, h4.1, h4.2.1, h4.2.2.1, h4.2.2.2]

theorem fourPatterns_group :
    fourPatterns.length = 8 ∧ fourPatterns.Nodup ∧ [0, 1, 2, 3] ∈ fourPatterns ∧
    (∀ p ∈ fourPatterns, p.length = 4 ∧ p.Nodup ∧ ∀ a ∈ p, a < 4) ∧
    (∀ p ∈ fourPatterns, ∀ q ∈ fourPatterns, compPat p q ∈ fourPatterns) := by
  decide +kernel

lemma written_closed {i j k l : Nat} {e : List Nat} (he : e ∈ fourPatterns) {p : Idx}
    (h : p ∈ written i j k l) : applyPat p e ∈ written i j k l := by
  change p ∈ fourPatterns.map (applyPat (i, j, k, l)) at h
  obtain ⟨q, hq, rfl⟩ := List.mem_map.mp h
  have g := fourPatterns_group.2.2.2
  rw [applyPat_applyPat _ _ _ (g.1 e he).1 (g.1 q hq).1 (g.1 e he).2.2]
  exact List.mem_map.mpr ⟨_, g.2 e he q hq, rfl⟩

lemma written_closed_E (i j k l : Nat) (p : Idx) (h : p ∈ written i j k l) : swapE p ∈ written i j k l :=
  written_closed (e := [1, 0, 3, 2]) (by decide) h

lemma written_closed_1 (i j k l : Nat) (p : Idx) (h : p ∈ written i j k l) : swap1 p ∈ written i j k l :=
  written_closed (e := [2, 1, 0, 3]) (by decide) h

lemma written_closed_2 (i j k l : Nat) (p : Idx) (h : p ∈ written i j k l) : swap2 p ∈ written i j k l :=
  written_closed (e := [0, 3, 2, 1]) (by decide) h

lemma swapE_invol (p : Idx) : swapE (swapE p) = p := rfl
lemma swap1_invol (p : Idx) : swap1 (swap1 p) = p := rfl
lemma swap2_invol (p : Idx) : swap2 (swap2 p) = p := rfl

lemma foldl_update {α : Type} (v : α) (ps : List Idx) (a : Idx → α) (q : Idx) :
    (ps.foldl (fun a p => update a p v) a) q = if q ∈ ps then v else a q := by
  induction ps generalizing a with
  | nil => simp
  | cons p ps ih =>
    simp only [List.foldl_cons, ih, update, List.mem_cons]
    by_cases h1 : q ∈ ps
    · simp [h1]
    · by_cases h2 : q = p <;> simp [h1, h2]

lemma dot_self_nonneg (a : V3) : 0 ≤ dot a a :=
  add_nonneg (add_nonneg (mul_self_nonneg _) (mul_self_nonneg _)) (mul_self_nonneg _)

lemma absR_eq_abs (x : Rat) : absR x = |x| := by
  unfold absR
  split
  · rw [abs_of_neg (by assumption)]
  · rw [abs_of_nonneg (by linarith)]

lemma absR_neg (x : Rat) : absR (-x) = absR x := by simp [absR_eq_abs]

lemma absR_mul_self (x : Rat) : absR x * absR x = x * x := by
  rw [absR_eq_abs]
  rcases abs_choice x with h | h <;> rw [h]
  ring

/-- the opposite vector -/
def negV (a : V3) : V3 := (-a.1, -a.2.1, -a.2.2)
/-- flip the direction of a vector when `s` is true -/
def flipV (s : Bool) (a : V3) : V3 := if s then negV a else a

/-- Gram determinants, written out -/
def gram1 (a : V3) : Rat := dot a a
def gram2 (a b : V3) : Rat := dot a a * dot b b - dot a b * dot b a
def gram3 (a b c : V3) : Rat :=
  dot a a * (dot b b * dot c c - dot b c * dot c b)
  - dot a b * (dot b a * dot c c - dot b c * dot c a)
  + dot a c * (dot b a * dot c b - dot b b * dot c a)

lemma minL_lt_iff (t : Rat) (xs : List Rat) (m : Rat) :
    minL m xs < t ↔ m < t ∨ ∃ x ∈ xs, x < t := by
  induction xs generalizing m with
  | nil => simp [minL]
  | cons x xs ih =>
    have key : (if x < m then x else m) < t ↔ m < t ∨ x < t := by
      split_ifs with h
      · exact ⟨Or.inr, fun h' => h'.elim (lt_trans h) id⟩
      · exact ⟨Or.inl, fun h' => h'.elim id (lt_of_le_of_lt (not_lt.mp h))⟩
    simp only [minL, ih, key, List.mem_cons, exists_eq_or_imp, or_assoc]

lemma lt_maxL_iff (t : Rat) (xs : List Rat) (m : Rat) :
    t < maxL m xs ↔ t < m ∨ ∃ x ∈ xs, t < x := by
  induction xs generalizing m with
  | nil => simp [maxL]
  | cons x xs ih =>
    have key : t < (if m < x then x else m) ↔ t < m ∨ t < x := by
      split_ifs with h
      · exact ⟨Or.inr, fun h' => h'.elim (fun h' => lt_trans h' h) id⟩
      · exact ⟨Or.inl, fun h' => h'.elim id (fun h' => lt_of_lt_of_le h' (not_lt.mp h))⟩
    simp only [maxL, ih, key, List.mem_cons, exists_eq_or_imp, or_assoc]

lemma lookup_eq_some_iff (t : List (List Char × Bool)) (hn : (t.map Prod.fst).Nodup) (w : List Char) (b : Bool) :
    lookup t w = some b ↔ (w, b) ∈ t := by
  induction t with
  | nil => simp [lookup]
  | cons e t ih =>
    simp only [List.map_cons, List.nodup_cons] at hn
    unfold lookup at ih ⊢
    simp only [List.find?_cons]
    by_cases h : e.1 = w
    · subst h
      simp only [beq_self_eq_true, Option.some.injEq, List.mem_cons]
      constructor
      · intro h; left; rw [← h]
      · rintro (h | h)
        · rw [← h]
        · exact absurd (List.mem_map.mpr ⟨_, h, rfl⟩) hn.1
    · have : (e.1 == w) = false := by simpa using h
      simp only [this, List.mem_cons]
      rw [ih hn.2]
      constructor
      · exact Or.inr
      · rintro (h' | h')
        · exact absurd (by rw [← h']) h
        · exact h'

lemma lookup_eq_none_iff (t : List (List Char × Bool)) (w : List Char) :
    lookup t w = none ↔ w ∉ t.map Prod.fst := by
  unfold lookup
  split
  · rename_i e h
    simp only [reduceCtorEq, false_iff, not_not]
    exact List.mem_map.mpr ⟨e, List.mem_of_find?_eq_some h, by simpa using List.find?_some h⟩
  · rename_i h
    simp only [true_iff]
    intro hm
    obtain ⟨e, he, rfl⟩ := List.mem_map.mp hm
    simpa using List.find?_eq_none.mp h e he

end Iodata.Helpers
