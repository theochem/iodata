/-
Argument binding at the call sites of `iodata/__main__.py` (C18).  `apiCalls` binds every API call of a body
against the extracted signature of its callee and then looks the argument texts up in the value environment;
the binding does not depend on the environment, so it is evaluated here once per call site and the theorems of
`Props/C18.lean` (symbolic and concrete environments) only add the look-ups.
-/
import Iodata.Model.Cli
import Iodata.Gen.ApiFlow

namespace Iodata.Cli
open Iodata.Flow Iodata.Gen

/-- the arguments of a call bound to the extracted signature of the API function `fn`
(`none`: no such function, or Python would raise `TypeError`) -/
def boundArgs (fn : String) (args : List String) : Option (List (String × String)) :=
  match ApiFlow.signatures.find? (fun s => s.1 == fn) with
  | none => none
  | some s => bind (parseSig s.2) args

/-- Used as a pre-rewrite (`↓apiCalls_api`) next to `apiCalls`' own equations, so that a call site is folded
into `boundArgs` before the equation for `.call` unfolds it. -/
theorem apiCalls_api (env : ValEnv) (fn : String) (args : List String) (tgt : String) :
    apiCalls ApiFlow.signatures env (.call (.api fn) args tgt)
      = (boundArgs fn args).map fun bs => [(fn, bs.map fun p => (p.1, lookupV env p.2))] := by
  rw [apiCalls, boundArgs]; cases ApiFlow.signatures.find? (fun s => s.1 == fn) <;> rfl

/-- the five call sites of `main` and `convert`, bound by Python's rules against the extracted signatures -/
theorem bound_calls :
    boundArgs "convert" ["args.input", "args.output", "args.many", "args.infmt", "args.outfmt", "args.allow_changes"]
      = some [("infn", "args.input"), ("outfn", "args.output"), ("many", "args.many"), ("infmt", "args.infmt"),
              ("outfmt", "args.outfmt"), ("allow_changes", "args.allow_changes")] ∧
    boundArgs "load_one" ["infn", "fmt=infmt"] = some [("filename", "infn"), ("fmt", "infmt")] ∧
    boundArgs "dump_one" ["load_one(infn, fmt=infmt)", "outfn", "allow_changes=allow_changes", "fmt=outfmt"]
      = some [("data", "load_one(infn, fmt=infmt)"), ("filename", "outfn"), ("fmt", "outfmt"),
              ("allow_changes", "allow_changes")] ∧
    boundArgs "load_many" ["infn", "fmt=infmt"] = some [("filename", "infn"), ("fmt", "infmt")] ∧
    boundArgs "dump_many" ["load_many(infn, fmt=infmt)", "outfn", "allow_changes=allow_changes", "fmt=outfmt"]
      = some [("iter_data", "load_many(infn, fmt=infmt)"), ("filename", "outfn"), ("fmt", "outfmt"),
              ("allow_changes", "allow_changes")] := by
  decide +kernel

end Iodata.Cli
