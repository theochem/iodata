/- Lemmas for C10 (convention conversion): the guards as a predicate, what a successful conversion returns,
   the two facts about `val` from which inverse and composition follow, the block structure of the
   basis-level conversion, and a cheap check of table entries. -/
import Iodata.Model.Conv

-- `[DecidableEq β]` is a section variable that a few statements below carry without using it
set_option linter.unusedSectionVars false

namespace Iodata.Conv

/-! ### lists -/

theorem getD_map_zero {α : Type} (f : α → Int) (l : List α) (j : Nat) :
    (l.map f).getD j 0 = match l[j]? with | some a => f a | none => 0 := by
  rw [List.getD_eq_getElem?_getD, List.getElem?_map]
  cases l[j]? <;> simp

theorem eq_map_getD_range {α : Type} (l : List α) (d : α) : l = (List.range l.length).map (l.getD · d) := by
  apply List.ext_getElem (by simp)
  intro i h1 h2
  simp [List.getD_eq_getElem?_getD, h1]

theorem getD_take {α : Type} (l : List α) (d : α) {j k : Nat} (h : j < k) : (l.take k).getD j d = l.getD j d := by
  simp [List.getD_eq_getElem?_getD, h]

theorem zip_map_range {α β γ : Type} (f : α × β → γ) (l : List α) (m : List β) (n : Nat)
    (hl : l.length = n) (hm : m.length = n) (da : α) (db : β) :
    (l.zip m).map f = (List.range n).map fun i => f (l.getD i da, m.getD i db) := by
  conv => lhs; rw [eq_map_getD_range l da, eq_map_getD_range m db, hl, hm, List.zip_map', List.map_map]
  rfl

theorem getD_mapIdx {α : Type} (f : Nat → List α → List α) (l : List (List α)) {k : Nat} (h : k < l.length) :
    (l.mapIdx f).getD k [] = f k (l.getD k []) := by
  simp [List.getD_eq_getElem?_getD, h]

theorem range_eq_map_idxOf {α : Type} [DecidableEq α] (l : List α) (hn : l.Nodup) :
    List.range l.length = l.map (fun x => l.idxOf x) := by
  apply List.ext_getElem
  · simp
  · intro i h1 h2
    have hi : i < l.length := by simpa using h1
    simp [hn.idxOf_getElem i hi]

theorem perm_sum_map {α : Type} (f : α → Int) {l₁ l₂ : List α} (h : l₁.Perm l₂) :
    (l₁.map f).sum = (l₂.map f).sum := by
  induction h with
  | nil => rfl
  | cons a _ ih => simp [ih]
  | swap a b l => simp; omega
  | trans _ _ ih1 ih2 => rw [ih1, ih2]

theorem subset_of_nodup_of_length_le {α : Type} [DecidableEq α] : ∀ {l₁ l₂ : List α},
    l₁.Nodup → l₁ ⊆ l₂ → l₂.length ≤ l₁.length → l₂ ⊆ l₁
  | [], l₂, _, _, h => by simp [List.eq_nil_of_length_eq_zero (Nat.le_zero.mp h)]
  | a :: l₁, l₂, hn, hs, hl => by
    have ha : a ∈ l₂ := hs (by simp)
    have hn' := List.nodup_cons.mp hn
    have ih := subset_of_nodup_of_length_le (l₂ := l₂.erase a) hn'.2
      (fun x hx => (List.mem_erase_of_ne (by rintro rfl; exact hn'.1 hx)).mpr (hs (List.mem_cons_of_mem _ hx)))
      (by rw [List.length_erase_of_mem ha]; simp at hl; omega)
    intro x hx
    by_cases hxa : x = a
    · simp [hxa]
    · exact List.mem_cons_of_mem _ (ih ((List.mem_erase_of_ne hxa).mpr hx))

theorem find?_key {κ ν : Type} [BEq κ] [LawfulBEq κ] {t : List (κ × ν)} {k : κ} {e : κ × ν}
    (h : t.find? (fun e => e.1 == k) = some e) : (k, e.2) ∈ t := by
  have hk : e.1 = k := by simpa using List.find?_some h
  exact hk ▸ List.mem_of_find?_eq_some h

/-! ### conventions and their conversion -/

variable {β : Type} [DecidableEq β]

theorem sgnB_mul_self (b : Bool) : sgnB b * sgnB b = 1 := by cases b <;> simp [sgnB]

theorem sgnB_mul_sq (a b : Bool) : sgnB a * sgnB b * (sgnB a * sgnB b) = 1 := by
  cases a <;> cases b <;> rfl

theorem sgnB_ne_zero (b : Bool) : sgnB b ≠ 0 := by cases b <;> simp [sgnB]

@[simp] theorem labels_length (c : List (Bool × β)) : (labels c).length = c.length := by simp [labels]
@[simp] theorem signs_length (c : List (Bool × β)) : (signs c).length = c.length := by simp [signs]
@[simp] theorem convFwd_length (c1 c2 : List (Bool × β)) : (convFwd c1 c2).length = c2.length := by
  simp [convFwd]
@[simp] theorem apply_length (r : List (Nat × Int)) (v : List Int) : (apply r v).length = r.length := by
  simp [apply]

theorem labels_map_parse (c : List Label) : labels (c.map parse) = c.map strip := by
  simp [labels, parse, Function.comp_def]

theorem idxOf_label {c : List (Bool × β)} {x : β} (hx : x ∈ labels c) :
    ∃ h : (labels c).idxOf x < c.length,
      (c[(labels c).idxOf x]).2 = x ∧ (signs c).getD ((labels c).idxOf x) 0 = sgnB (c[(labels c).idxOf x]).1 := by
  have hlt : (labels c).idxOf x < c.length := by simpa using List.idxOf_lt_length_iff.mpr hx
  have hget : (labels c)[(labels c).idxOf x]'(by simpa using hlt) = x := List.getElem_idxOf _
  simp only [labels, List.getElem_map] at hget
  refine ⟨hlt, hget, ?_⟩
  simp [signs, List.getD_eq_getElem?_getD, hlt]

/-- what the guards of `_convert_convention_shell` accept (`guards_ok_iff`): equally many labels, no label twice
on either side, the same labels up to sign -/
def Compatible (c1 c2 : List (Bool × β)) : Prop :=
  c1.length = c2.length ∧ (labels c1).Nodup ∧ (labels c2).Nodup ∧ (∀ x, x ∈ labels c1 ↔ x ∈ labels c2)

theorem Compatible.symm {c1 c2 : List (Bool × β)} (h : Compatible c1 c2) : Compatible c2 c1 :=
  ⟨h.1.symm, h.2.2.1, h.2.1, fun x => (h.2.2.2 x).symm⟩

theorem Compatible.trans {c1 c2 c3 : List (Bool × β)} (h : Compatible c1 c2) (h' : Compatible c2 c3) :
    Compatible c1 c3 :=
  ⟨h.1.trans h'.1, h.2.1, h'.2.2.1, fun x => (h.2.2.2 x).trans (h'.2.2.2 x)⟩

/-! Each guard is `if ¬ p then .error … else` the remaining guards. -/

theorem ite_not_error_ok {p : Prop} [Decidable p] {e : Err} {x : Except Err Unit} :
    (if ¬ p then .error e else x) = .ok () ↔ p ∧ x = .ok () := by
  by_cases h : p <;> simp [h]

theorem ite_not_error_error {p : Prop} [Decidable p] {e e' : Err} {x : Except Err Unit}
    (h : (if ¬ p then .error e' else x) = .error e) : e = e' ∨ x = .error e := by
  by_cases hp : p <;> simp [hp] at h <;> simp [h]

theorem guards_ok_iff (c1 c2 : List (Bool × β)) : guards c1 c2 = .ok () ↔ Compatible c1 c2 := by
  unfold guards Compatible
  simp only [ne_eq, ite_not_error_ok, and_true, List.all_eq_true, List.contains_iff_mem]
  exact ⟨fun ⟨a, b, c, d⟩ => ⟨a, b, c, fun x => ⟨d.1 x, d.2 x⟩⟩,
    fun ⟨a, b, c, d⟩ => ⟨a, b, c, fun x => (d x).mp, fun x => (d x).mpr⟩⟩

theorem guards_error_ne_key (c1 c2 : List (Bool × β)) (e : Err) (h : guards c1 c2 = .error e) :
    e ≠ .keyError := by
  unfold guards at h
  rcases ite_not_error_error h with rfl | h
  · decide
  rcases ite_not_error_error h with rfl | h
  · decide
  rcases ite_not_error_error h with rfl | h
  · decide
  rcases ite_not_error_error h with rfl | h
  · decide
  · cases h

theorem convCore_ok {c1 c2 : List (Bool × β)} {rev : Bool} {r : List (Nat × Int)} :
    convCore c1 c2 rev = .ok r ↔ Compatible c1 c2 ∧ r = if rev then convFwd c2 c1 else convFwd c1 c2 := by
  rw [← guards_ok_iff]
  unfold convCore
  cases guards c1 c2 with
  | error e => simp
  | ok u => cases rev <;> simp [convFwd, eq_comm]

theorem convShell_ok {c1 c2 : List Label} {r : List (Nat × Int)} (h : convShell c1 c2 false = .ok r) :
    Compatible (c1.map parse) (c2.map parse) ∧ r = convFwd (c1.map parse) (c2.map parse) :=
  convCore_ok.mp h

/-- Converting preserves the coefficient of every unsigned function; with `val_ext` this gives inverse and
composition (`apply_convFwd_inverse`, `apply_convFwd_compose`) without reasoning about positions. -/
theorem val_apply_convFwd {c1 c2 : List (Bool × β)} (h : Compatible c1 c2) (v : List Int) (x : β) :
    val c2 (apply (convFwd c1 c2) v) x = val c1 v x := by
  obtain ⟨_, _, _, hset⟩ := h
  unfold val apply convFwd signs
  rw [List.map_map, getD_map_zero, getD_map_zero]
  by_cases hx : x ∈ labels c2
  · obtain ⟨hj, hp, _⟩ := idxOf_label hx
    rw [List.getElem?_eq_getElem hj]
    simp only [Function.comp, hp]
    have := sgnB_mul_self (c2[(labels c2).idxOf x]).1
    grind
  · have hx1 : x ∉ labels c1 := fun hh => hx ((hset x).mp hh)
    have e2 : (labels c2).idxOf x = c2.length := by
      rw [List.idxOf_eq_length hx]; simp
    have e1 : (labels c1).idxOf x = c1.length := by
      rw [List.idxOf_eq_length hx1]; simp
    rw [e2, e1]
    simp

/-- The coefficients of the unsigned functions determine the vector. -/
theorem val_ext {c : List (Bool × β)} (hn : (labels c).Nodup) {v w : List Int}
    (hv : v.length = c.length) (hw : w.length = c.length)
    (h : ∀ x, val c v x = val c w x) : v = w := by
  apply List.ext_getElem (hv.trans hw.symm)
  intro i h1 h2
  have hi : i < c.length := hv ▸ h1
  have hil : i < (labels c).length := by simpa using hi
  have hx := h ((labels c)[i])
  unfold val at hx
  rw [hn.idxOf_getElem i hil] at hx
  unfold signs at hx
  rw [getD_map_zero] at hx
  rw [List.getElem?_eq_getElem hi] at hx
  simp only [List.getD_eq_getElem?_getD, List.getElem?_eq_getElem h1, List.getElem?_eq_getElem h2,
    Option.getD_some] at hx
  exact Int.eq_of_mul_eq_mul_left (sgnB_ne_zero _) hx

theorem apply_convFwd_inverse {c1 c2 : List (Bool × β)} (h : Compatible c1 c2) {v : List Int}
    (hv : v.length = c1.length) : apply (convFwd c2 c1) (apply (convFwd c1 c2) v) = v :=
  val_ext h.2.1 (by simp) hv fun x => by rw [val_apply_convFwd h.symm, val_apply_convFwd h]

theorem apply_convFwd_compose {c1 c2 c3 : List (Bool × β)} (h12 : Compatible c1 c2) (h23 : Compatible c2 c3)
    (v : List Int) : apply (convFwd c2 c3) (apply (convFwd c1 c2) v) = apply (convFwd c1 c3) v :=
  val_ext h23.2.2.1 (by simp) (by simp) fun x => by
    rw [val_apply_convFwd h23, val_apply_convFwd h12, val_apply_convFwd (h12.trans h23)]

theorem convFwd_fst (c1 c2 : List (Bool × β)) :
    (convFwd c1 c2).map Prod.fst = (labels c2).map fun x => (labels c1).idxOf x := by
  unfold convFwd labels
  rw [List.map_map, List.map_map]
  rfl

theorem convFwd_fst_lt {c1 c2 : List (Bool × β)} (h : Compatible c1 c2) :
    ∀ p ∈ convFwd c1 c2, p.1 < c1.length := by
  intro p hp
  have : p.1 ∈ (convFwd c1 c2).map Prod.fst := List.mem_map.mpr ⟨p, hp, rfl⟩
  rw [convFwd_fst] at this
  obtain ⟨x, hx, hpx⟩ := List.mem_map.mp this
  have := List.idxOf_lt_length_iff.mpr ((h.2.2.2 x).mpr hx)
  simpa [← hpx] using this

theorem apply_block (r rest : List (Nat × Int)) (n : Nat) (v : List Int) (hr : ∀ p ∈ r, p.1 < n) :
    apply (r ++ rest.map (shift n)) v = apply r (v.take n) ++ apply rest (v.drop n) := by
  unfold apply
  rw [List.map_append, List.map_map]
  congr 1
  · apply List.map_congr_left
    intro p hp
    have := hr p hp
    simp [List.getD_eq_getElem?_getD, this]
  · apply List.map_congr_left
    intro p _
    simp [shift, List.getD_eq_getElem?_getD, List.getElem?_drop, Nat.add_comm]

theorem apply_shell_block {c1 c2 : List Label} (h : Compatible (c1.map parse) (c2.map parse))
    (rest : List (Nat × Int)) (v : List Int) :
    apply (convFwd (c1.map parse) (c2.map parse) ++ rest.map (shift c1.length)) v
      = apply (convFwd (c1.map parse) (c2.map parse)) (v.take c1.length) ++ apply rest (v.drop c1.length) :=
  apply_block _ _ _ _ (by simpa using convFwd_fst_lt h)

theorem map_shift_zero (r : List (Nat × Int)) : r.map (shift 0) = r :=
  (List.map_congr_left fun _ _ => rfl).trans (List.map_id r)

/-- DESIGN §5 C10, item 5 (5b). Offsets only shift: the conversion from offset `off` is the conversion from 0,
shifted. -/
theorem convBasisFrom_shift (t1 t2 : Table) (rev : Bool) : ∀ (ks : List Key) (off : Nat),
    convBasisFrom t1 t2 rev off ks = (convBasisFrom t1 t2 rev 0 ks).map (fun r => r.map (shift off))
  | [], _ => rfl
  | k :: ks, off => by
    simp only [convBasisFrom]
    cases lookup t1 k with
    | error _ => rfl
    | ok c1 =>
      cases lookup t2 k with
      | error _ => rfl
      | ok c2 =>
        dsimp only
        cases convShell c1 c2 rev with
        | error _ => rfl
        | ok r =>
          dsimp only
          rw [convBasisFrom_shift t1 t2 rev ks (off + _), convBasisFrom_shift t1 t2 rev ks (0 + _)]
          cases convBasisFrom t1 t2 rev 0 ks with
          | error _ => rfl
          | ok rest =>
            simp only [Except.map, List.map_append, List.map_map]
            -- the blocks of `r` agree as they stand (`shift 0 p` is `p`); what is left is that on `rest`
            -- the offsets `off + r.length` and `0 + r.length`, then `off`, add up to the same
            congr 2
            apply List.map_congr_left
            intro p _
            simp only [Function.comp, shift, Prod.mk.injEq, and_true]
            omega

theorem convBasis_cons_ok {t1 t2 : Table} {k : Key} {ks : List Key} {r : List (Nat × Int)}
    (h : convBasis t1 t2 (k :: ks) false = .ok r) :
    ∃ c1 c2 rest, lookup t1 k = .ok c1 ∧ lookup t2 k = .ok c2 ∧ Compatible (c1.map parse) (c2.map parse) ∧
      convBasis t1 t2 ks false = .ok rest ∧
      r = convFwd (c1.map parse) (c2.map parse) ++ rest.map (shift c1.length) := by
  unfold convBasis at h ⊢
  simp only [convBasisFrom] at h
  cases hl1 : lookup t1 k with
  | error e => simp [hl1] at h
  | ok c1 =>
    cases hl2 : lookup t2 k with
    | error e => simp [hl1, hl2] at h
    | ok c2 =>
      simp only [hl1, hl2] at h
      cases hs : convShell c1 c2 false with
      | error e => simp [hs] at h
      | ok r1 =>
        obtain ⟨hc, rfl⟩ := convShell_ok hs
        simp only [hs] at h
        rw [convBasisFrom_shift] at h
        cases hb : convBasisFrom t1 t2 false 0 ks with
        | error e => simp [hb, Except.map] at h
        | ok rest =>
          simp only [hb, Except.map, Except.ok.injEq] at h
          refine ⟨c1, c2, rest, rfl, rfl, hc, rfl, ?_⟩
          have : (c1.map parse).length = (c2.map parse).length := hc.1
          simp only [List.length_map] at this
          simp [← h, this, map_shift_zero]

theorem lookup_ok_mem {t : Table} {k : Key} {c : List Label} (h : lookup t k = .ok c) : (k, c) ∈ t := by
  unfold lookup at h
  cases hf : t.find? (fun e => e.1 == k) with
  | none => simp [hf] at h
  | some e =>
    have hc : e.2 = c := by simpa [hf] using h
    exact hc ▸ find?_key hf

/-- A label as one number (digits `char + 1` to the base 2³³).  The kernel compares two such numbers in one
step, two labels character by character; the checks on table entries below are quadratic in the number of
labels, so they are run on the codes. -/
def labelCode (l : Label) : Nat := l.foldr (fun c n => n * 8589934592 + (c.toNat + 1)) 0

theorem labelCode_injective : ∀ {a b : Label}, labelCode a = labelCode b → a = b
  | [], [], _ => rfl
  | [], d :: b, h => by simp only [labelCode, List.foldr_cons, List.foldr_nil] at h; omega
  | c :: a, [], h => by simp only [labelCode, List.foldr_cons, List.foldr_nil] at h; omega
  | c :: a, d :: b, h => by
    have hc : c.toNat < 2 ^ 32 := UInt32.toNat_lt c.val
    have hd : d.toNat < 2 ^ 32 := UInt32.toNat_lt d.val
    simp only [labelCode, List.foldr_cons] at h
    have h1 : c.toNat = d.toNat := by omega
    have h2 : labelCode a = labelCode b := by unfold labelCode; omega
    rw [← Char.ofNat_toNat c, ← Char.ofNat_toNat d, h1, labelCode_injective h2]

/-- an entry lists exactly the functions of its shell type, each once, up to sign -/
def ListsExpected (e : Key × List Label) : Prop :=
  ∃ exp, expected e.1 = some exp ∧ (e.2.map strip).Nodup ∧ ∀ x, x ∈ e.2.map strip ↔ x ∈ exp

/-- `a ∈ l` for numbers, in the form the kernel evaluates fastest -/
def memNat (a : Nat) : List Nat → Bool
  | [] => false
  | b :: l => Nat.beq a b || memNat a l

/-- `l.Nodup` for numbers, on `memNat` -/
def nodupNat : List Nat → Bool
  | [] => true
  | a :: l => !memNat a l && nodupNat l

theorem memNat_iff {a : Nat} : ∀ {l : List Nat}, memNat a l = true ↔ a ∈ l
  | [] => by simp [memNat]
  | b :: l => by simp [memNat, memNat_iff (l := l)]

theorem nodupNat_iff : ∀ {l : List Nat}, nodupNat l = true ↔ l.Nodup
  | [] => by simp [nodupNat]
  | a :: l => by simp [nodupNat, ← memNat_iff, nodupNat_iff (l := l)]

/-- `wellFormedEntry` decided on label codes: as many labels as expected, no two alike, each an expected one
(so each expected one occurs) -/
def entryCheck (e : Key × List Label) : Bool :=
  match expected e.1 with
  | none => false
  | some exp =>
    let ls := e.2.map fun l => labelCode (strip l)
    let ex := exp.map labelCode
    Nat.beq ls.length ex.length && nodupNat ls && ls.all (fun x => memNat x ex)
      && e.2.all (fun l => strip l == l || ('-' :: strip l) == l)

theorem entryCheck_spec {e : Key × List Label} (h : entryCheck e = true) :
    wellFormedEntry e = true ∧ ListsExpected e := by
  unfold entryCheck at h
  unfold wellFormedEntry ListsExpected
  cases hx : expected e.1 with
  | none => simp [hx] at h
  | some exp =>
    have hmap : (e.2.map fun l => labelCode (strip l)) = (e.2.map strip).map labelCode := by simp
    simp only [hx, hmap, Bool.and_eq_true, nodupNat_iff, memNat_iff, decide_eq_true_eq, List.all_eq_true,
      List.contains_iff_mem, List.length_map, List.forall_mem_map] at h ⊢
    obtain ⟨⟨⟨hlen, hnd⟩, hsup⟩, hdash⟩ := h
    replace hlen := Nat.eq_of_beq_eq_true hlen
    replace hnd : (e.2.map strip).Nodup := (List.pairwise_map.mp hnd).imp fun h e => h (congrArg _ e)
    have hsup' : e.2.map strip ⊆ exp := fun x hm => by
      obtain ⟨l, hl, rfl⟩ := List.mem_map.mp hm
      obtain ⟨y, hy, he⟩ := List.mem_map.mp (hsup l hl)
      exact labelCode_injective he ▸ hy
    have hsub := subset_of_nodup_of_length_le hnd hsup' (by simp [hlen])
    exact ⟨⟨⟨⟨hlen, hnd⟩, fun x hx => hsub hx⟩, hdash⟩, exp, rfl, hnd,
      fun x => ⟨fun hm => hsup' hm, fun hm => hsub hm⟩⟩

theorem ListsExpected.compatible {k : Key} {c1 c2 : List Label} (h1 : ListsExpected (k, c1))
    (h2 : ListsExpected (k, c2)) : Compatible (c1.map parse) (c2.map parse) := by
  obtain ⟨exp, hx, hn1, hs1⟩ := h1
  obtain ⟨exp', hx', hn2, hs2⟩ := h2
  cases hx.symm.trans hx'
  have hmem : ∀ x, x ∈ c1.map strip ↔ x ∈ c2.map strip := fun x => (hs1 x).trans (hs2 x).symm
  have hp := (List.perm_ext_iff_of_nodup hn1 hn2).mpr hmem
  refine ⟨?_, by rwa [labels_map_parse], by rwa [labels_map_parse], by simpa only [labels_map_parse] using hmem⟩
  simpa using hp.length_eq

/-! ### the alphabetical Cartesian labels, built degree by degree

The closed form in `Props/C10` builds every label from three `List.replicate`s, which is slow to evaluate
for all `l ≤ 24`; the recursive form shares the tails of the labels. -/

/-- `yⁿ, yⁿ⁻¹z, …, zⁿ` -/
def yzRec : Nat → List Label
  | 0 => [[]]
  | n + 1 => (yzRec n).map ('y' :: ·) ++ [List.replicate (n + 1) 'z']

/-- the monomials of degree `l` in alphabetical order: those with an `x` in front of the degree `l - 1`
ones, then those in `y, z` only -/
def cartRec : Nat → List Label
  | 0 => [[]]
  | l + 1 => (cartRec l).map ('x' :: ·) ++ yzRec (l + 1)

theorem yzRec_eq (n : Nat) : yzRec n =
    (List.range (n + 1)).reverse.map fun ny => List.replicate ny 'y' ++ List.replicate (n - ny) 'z' := by
  induction n with
  | zero => rfl
  | succ n ih =>
    rw [yzRec, ih, List.range_succ_eq_map (n := n + 1), List.reverse_cons, List.map_append, ← List.map_reverse,
      List.map_map, List.map_map]
    simp [List.replicate_succ, Function.comp_def]

theorem cartRec_eq (l : Nat) : cartRec l =
    (List.range (l + 1)).reverse.flatMap fun nx => (List.range (l - nx + 1)).reverse.map fun ny =>
      List.replicate nx 'x' ++ List.replicate ny 'y' ++ List.replicate (l - nx - ny) 'z' := by
  have h : ∀ l, cartRec l =
      (List.range (l + 1)).reverse.flatMap fun nx => (yzRec (l - nx)).map (List.replicate nx 'x' ++ ·) := by
    intro l
    induction l with
    | zero => rfl
    | succ l ih =>
      rw [cartRec, ih, List.range_succ_eq_map (n := l + 1), List.reverse_cons, List.flatMap_append,
        ← List.map_reverse, List.flatMap_map, List.map_flatMap]
      simp [List.replicate_succ, Function.comp_def]
  rw [h]
  simp [yzRec_eq, List.append_assoc, Function.comp_def]

end Iodata.Conv

namespace Iodata.Wf
open Iodata.Conv

/-- `r` is a signed permutation of `n` positions: entry `j` is `(source position, sign)` as `convert_conventions`
returns them, the source positions are `0, …, n - 1` in some order and every sign is `±1` -/
structure SignedPerm (r : List (Nat × Int)) (n : Nat) : Prop where
  perm : (r.map Prod.fst).Perm (List.range n)
  sign : ∀ p ∈ r, p.2 * p.2 = 1

theorem SignedPerm.length {r : List (Nat × Int)} {n : Nat} (h : SignedPerm r n) : r.length = n := by
  have := h.perm.length_eq
  simpa using this

theorem SignedPerm.convFwd {β : Type} [DecidableEq β] {c1 c2 : List (Bool × β)} (h : Compatible c1 c2) :
    SignedPerm (convFwd c1 c2) c1.length := by
  obtain ⟨hlen, hn1, hn2, hset⟩ := h
  constructor
  · have p : (labels c2).Perm (labels c1) := (List.perm_ext_iff_of_nodup hn2 hn1).mpr (fun a => (hset a).symm)
    have := p.map (fun x => (labels c1).idxOf x)
    rw [← range_eq_map_idxOf _ hn1] at this
    simpa [convFwd_fst] using this
  · intro p hp
    obtain ⟨q, hq, rfl⟩ := List.mem_map.mp hp
    obtain ⟨_, _, hs⟩ := idxOf_label ((hset _).mpr (List.mem_map.mpr ⟨q, hq, rfl⟩))
    dsimp only
    rw [hs]; exact sgnB_mul_sq _ _

theorem SignedPerm.sum {r : List (Nat × Int)} {n : Nat} (h : SignedPerm r n) (G : Nat → Int) :
    (r.map fun p => G p.1).sum = ((List.range n).map G).sum := by
  have := perm_sum_map G h.perm
  rw [List.map_map] at this
  exact this

theorem SignedPerm.append {r1 rest : List (Nat × Int)} {n m : Nat} (h1 : SignedPerm r1 n) (h2 : SignedPerm rest m) :
    SignedPerm (r1 ++ rest.map (shift n)) (n + m) := by
  constructor
  · rw [List.map_append, List.range_add, List.map_map]
    apply List.Perm.append h1.perm
    have := h2.perm.map (fun x => n + x)
    rw [List.map_map] at this
    have e : (Prod.fst ∘ shift n) = ((fun x => n + x) ∘ Prod.fst) := by
      funext p; simp [shift, Nat.add_comm]
    rw [e]; exact this
  · intro p hp
    rcases List.mem_append.mp hp with hp | hp
    · exact h1.sign p hp
    · obtain ⟨q, hq, rfl⟩ := List.mem_map.mp hp
      simpa [shift] using h2.sign q hq

theorem convBasis_signedPerm (t1 t2 : Table) : ∀ (keys : List Key) (r : List (Nat × Int)),
    convBasis t1 t2 keys false = .ok r → SignedPerm r r.length
  | [], r, h => by cases h; exact ⟨by simp, by simp⟩
  | k :: ks, r, h => by
    obtain ⟨c1, c2, rest, _, _, hc, hb, rfl⟩ := convBasis_cons_ok h
    have hn : c1.length = c2.length := by simpa using hc.1
    have := SignedPerm.append (SignedPerm.convFwd hc) (convBasis_signedPerm t1 t2 ks rest hb)
    simpa [hn] using this

end Iodata.Wf
