/- `IOData` (model: `Iodata/Model/IOData.lean`): the invariant `Inv` of reachable states and that every setter keeps
it; the closed form of the lazy `atcorenums` getter and what it leaves alone (`obs_getCore`); where a raising
operation leaves the state (`step_err_state`); and the weaker invariant `CoreDef` of histories that never assign
core charges or re-assign `atnums` (`usesDefault`). -/
import Iodata.Model.IOData

namespace Iodata.IOD

/-- all per-atom arrays that are set have one common length -/
def Agree (s : St) : Prop :=
  ∀ f g n m, lenOf s f = some n → lenOf s g = some m → n = m

/-- once core charges are stored, `_charge` is not -/
def I1 (s : St) : Prop := s.atcorenums ≠ none → s.charge = none

/-- the invariant of reachable states -/
def Inv (s : St) : Prop :=
  I1 s ∧ Agree s

theorem natomBy_none_iff (o : List Fld) (s : St) :
    natomBy o s = none ↔ ∀ f ∈ o, lenOf s f = none := by
  simp [natomBy, List.findSome?_eq_none_iff]

theorem natomBy_mem {o : List Fld} {s : St} {k : Nat} (h : natomBy o s = some k) :
    ∃ g ∈ o, lenOf s g = some k :=
  List.exists_of_findSome?_eq_some h

theorem natomBy_eq_of_agree {o : List Fld} {s : St} (ha : Agree s) {f : Fld} {n : Nat}
    (hf : f ∈ o) (hl : lenOf s f = some n) : natomBy o s = some n := by
  cases h : natomBy o s with
  | none => rw [(natomBy_none_iff o s).mp h f hf] at hl; cases hl
  | some k =>
    obtain ⟨g, _, hg⟩ := natomBy_mem h
    rw [ha g f k n hg hl]

theorem mem_natomOrder (f : Fld) : f ∈ natomOrder := by cases f <;> decide

theorem natom_eq_of_agree {s : St} (ha : Agree s) {f : Fld} {n : Nat}
    (hl : lenOf s f = some n) : natom s = some n :=
  natomBy_eq_of_agree ha (mem_natomOrder f) hl

theorem natom_none_all {s : St} (h : natom s = none) (f : Fld) : lenOf s f = none :=
  (natomBy_none_iff _ s).mp h f (mem_natomOrder f)

theorem shapeOk_iff {s : St} {n : Nat} (hn : natom s = some n) (k : Nat) : shapeOk s k = true ↔ n = k := by
  simp [shapeOk, hn]

theorem shapeOk_false_iff {s : St} {n : Nat} (hn : natom s = some n) (k : Nat) : shapeOk s k = false ↔ n ≠ k := by
  simp [shapeOk, hn]

theorem shapeOk_of_len {s : St} (ha : Agree s) {g : Fld} {n : Nat} (hl : lenOf s g = some n) :
    shapeOk s n = true :=
  (shapeOk_iff (natom_eq_of_agree ha hl) _).mpr rfl

theorem len_of_shapeOk {s : St} (ha : Agree s) {g : Fld} {n m : Nat} (hs : shapeOk s n = true)
    (hl : lenOf s g = some m) : m = n :=
  (shapeOk_iff (natom_eq_of_agree ha hl) _).mp hs

/-- one array `f` replaced by rows that passed the shape validator on the old state, or cleared -/
theorem agree_of_update {s s' : St} (ha : Agree s) (f : Fld)
    (hother : ∀ g, g ≠ f → lenOf s' g = lenOf s g)
    (hf : ∀ n, lenOf s' f = some n → shapeOk s n = true) : Agree s' := by
  have key : ∀ g m n, lenOf s' g = some m → lenOf s' f = some n → m = n := by
    intro g m n hg hn
    by_cases e : g = f
    · subst e; rw [hg] at hn; exact Option.some.inj hn
    · rw [hother g e] at hg; exact len_of_shapeOk ha (hf n hn) hg
  intro g h a b hg hh
  by_cases e1 : g = f
  · exact (key h b a hh (e1 ▸ hg)).symm
  · by_cases e2 : h = f
    · exact key g a b hg (e2 ▸ hh)
    · rw [hother g e1] at hg; rw [hother h e2] at hh; exact ha g h a b hg hh

theorem natomBy_congr {o1 o2 : List Fld} {s : St} (ha : Agree s)
    (hm : ∀ f, f ∈ o1 ↔ f ∈ o2) : natomBy o1 s = natomBy o2 s := by
  cases h : natomBy o1 s with
  | none =>
    symm; rw [natomBy_none_iff]; intro f hf
    exact (natomBy_none_iff o1 s).mp h f ((hm f).mpr hf)
  | some k =>
    obtain ⟨g, hg, hl⟩ := natomBy_mem h
    exact (natomBy_eq_of_agree ha ((hm g).mp hg) hl).symm

/-- the `nelec` (likewise `spinpol`) setter writes that one hidden field or nothing: it keeps every
property that does not read the field -/
theorem setNelec_keeps {P : St → Prop} (hP : ∀ s v, P s → P { s with nelec := v }) {s : St} (v) (h : P s) :
    P (setNelec s v).1 := by
  unfold setNelec; split
  · exact hP _ _ h
  · exact h

theorem setSpinpol_keeps {P : St → Prop} (hP : ∀ s v, P s → P { s with spinpol := v }) {s : St} (v) (h : P s) :
    P (setSpinpol s v).1 := by
  unfold setSpinpol; split
  · exact hP _ _ h
  · exact h

/-- The second argument has a default that is a TACTIC run at every call site: it proves that the write leaves
every per-atom length alone by unfolding the record update; for a write that touches an array give the argument
explicitly.  Such a write keeps the agreement of the arrays. -/
theorem agree_scalars {s s' : St} (ha : Agree s) (h : ∀ g, lenOf s' g = lenOf s g := by intro g; cases g <;> rfl) :
    Agree s' :=
  fun f g n m hf hg => ha f g n m (h f ▸ hf) (h g ▸ hg)

theorem inv_nelec (s : St) (v) (h : Inv s) : Inv { s with nelec := v } := ⟨h.1, agree_scalars h.2⟩

theorem inv_spinpol (s : St) (v) (h : Inv s) : Inv { s with spinpol := v } := ⟨h.1, agree_scalars h.2⟩

/-- the state after core charges `v` passed their validator and were stored: `_charge` is dropped, and
turned into an electron count when none is stored (closed form of the `some` branch of `setCore`) -/
def storeCore (s : St) (v : List Rat) : St :=
  { s with atcorenums := some v, charge := none,
           nelec := match s.charge, s.nelec with
                    | some c, none => some (sum v - c)
                    | _, n => n }

theorem setCore_some (s : St) (v : List Rat) :
    setCore s (some v) = if shapeOk s v.length then (storeCore s v, none) else (s, some .typeError) := by
  obtain ⟨_, _, _, _, _, _, c, n, _, _⟩ := s
  simp only [setCore, storeCore]
  split
  · cases c <;> cases n <;> rfl
  · rfl

theorem inv_storeCore {s : St} {v : List Rat} (ha : Agree s) (hs : shapeOk s v.length = true) :
    Inv (storeCore s v) :=
  ⟨fun _ => rfl, agree_of_update ha .atcorenums (fun g hg => by cases g <;> first | rfl | exact absurd rfl hg)
    (fun n hn => by cases hn; exact hs)⟩

theorem inv_setCore {s : St} (v) (h : Inv s) : Inv (setCore s v).1 := by
  cases v with
  | none =>
    refine ⟨fun hne => absurd rfl hne, agree_of_update h.2 .atcorenums (fun g hg => ?_) (fun n hn => nomatch hn)⟩
    cases g <;> first | exact absurd rfl hg | (simp only [setCore]; split <;> rfl)
  | some v =>
    rw [setCore_some]; split
    · exact inv_storeCore h.2 ‹_›
    · exact h

/-- the three behaviours of the `atcorenums` getter: a pure read, the lazy default stored, the lazy
default refused by the shape validator -/
theorem getCore_cases (s : St) :
    (getCore s = (s.atcorenums, s, none) ∧ (s.atcorenums ≠ none ∨ s.atnums = none)) ∨
    (∃ z, s.atcorenums = none ∧ s.atnums = some z ∧
      (shapeOk s z.length = true ∧ getCore s = (some (toFloat z), storeCore s (toFloat z), none) ∨
       shapeOk s z.length = false ∧ getCore s = (none, s, some .typeError))) := by
  unfold getCore
  cases hc : s.atcorenums with
  | some a => exact .inl ⟨rfl, .inl nofun⟩
  | none =>
    cases hz : s.atnums with
    | none => exact .inl ⟨rfl, .inr rfl⟩
    | some z =>
      refine .inr ⟨z, rfl, rfl, ?_⟩
      simp only [setCore_some, toFloat, List.length_map]
      cases shapeOk s z.length
      · exact .inr ⟨rfl, rfl⟩
      · exact .inl ⟨rfl, rfl⟩

theorem inv_getCore {s : St} (h : Inv s) : Inv (getCore s).2.1 := by
  rcases getCore_cases s with ⟨e, _⟩ | ⟨z, _, _, ⟨hs, e⟩ | ⟨_, e⟩⟩ <;> rw [e]
  · exact h
  · exact inv_storeCore h.2 (by rw [toFloat, List.length_map]; exact hs)
  · exact h

theorem getCore_ok {s : St} (ha : Agree s) : (getCore s).2.2 = none := by
  rcases getCore_cases s with ⟨h, _⟩ | ⟨z, _, hz, ⟨_, h⟩ | ⟨hs, _⟩⟩
  · rw [h]
  · rw [h]
  · rw [shapeOk_of_len ha (g := .atnums) (by simp [lenOf, hz])] at hs; cases hs

theorem getCore_fix (s : St) :
    getCore (getCore s).2.1 = ((getCore s).1, (getCore s).2.1, (getCore s).2.2) := by
  rcases getCore_cases s with ⟨h, _⟩ | ⟨z, _, _, ⟨_, h⟩ | ⟨_, h⟩⟩ <;> rw [h]
  · exact h
  · rfl
  · exact h

/-- after the getter ran, the stored value is what it returned and a second read is pure -/
theorem getCore_idem (s : St) :
    getCore (getCore s).2.1 = ((getCore s).1, (getCore s).2.1, none) ∨ (getCore s).2.2 ≠ none := by
  cases h : (getCore s).2.2 with
  | none => left; rw [getCore_fix, h]
  | some e => exact .inr nofun

theorem getCore_stored (s : St) (h : (getCore s).2.2 = none) : (getCore s).2.1.atcorenums = (getCore s).1 := by
  rcases getCore_cases s with ⟨h', _⟩ | ⟨z, _, _, ⟨_, h'⟩ | ⟨_, h'⟩⟩ <;> rw [h'] at h ⊢
  · rfl
  · cases h

/-- the `charge` getter leaves the state, and raises, exactly as the `atcorenums` getter it starts with -/
theorem getCharge_snd (s : St) : (getCharge s).2 = (getCore s).2 := by
  unfold getCharge
  rcases getCore s with ⟨ac, s1, _ | e⟩
  · simp only; split <;> rfl
  · rfl

theorem getCharge_fix (s : St) :
    getCharge (getCharge s).2.1 = ((getCharge s).1, (getCharge s).2.1, (getCharge s).2.2) := by
  rw [getCharge_snd]
  have hf := getCore_fix s
  unfold getCharge
  rw [hf]
  rcases getCore s with ⟨ac, s1, _ | e⟩
  · simp only; split <;> rfl
  · rfl

/-- in any state: when the `atcorenums` getter returns core charges and the electron count is known
after it ran, the `charge` getter returns their difference -/
theorem getCharge_val {s : St} {ac : List Rat} {ne : Rat} (hc : (getCore s).1 = some ac)
    (hn : getNelec (getCore s).2.1 = some ne) : (getCharge s).1 = some (sum ac - ne) := by
  unfold getCharge
  rcases getCore_cases s with ⟨h, _⟩ | ⟨z, _, _, ⟨_, h⟩ | ⟨_, h⟩⟩ <;> rw [h] at hc hn ⊢
  · simp only at hc hn ⊢; rw [hc, hn]
  · simp only at hc hn ⊢; rw [hc, hn]
  · cases hc

/-- state after `setCharge`: the lazily initialised state with `_charge` or `_nelec` replaced -/
theorem setCharge_cases (s : St) (c : Option Rat) :
    let s1 := (getCore s).2.1
    ((getCore s).2.2 ≠ none ∧ (setCharge s c) = (s1, (getCore s).2.2)) ∨
    ((getCore s).2.2 = none ∧ (getCore s).1 = none ∧ setCharge s c = ({ s1 with charge := c }, none)) ∨
    (∃ a, (getCore s).2.2 = none ∧ (getCore s).1 = some a ∧
        setCharge s c = setNelec s1 (c.map fun c => sum a - c)) := by
  unfold setCharge
  rcases getCore s with ⟨ac, s1, _ | e⟩
  · cases ac with
    | none => exact .inr (.inl ⟨rfl, rfl, rfl⟩)
    | some a => exact .inr (.inr ⟨a, rfl, rfl, by cases c <;> rfl⟩)
  · exact .inl ⟨nofun, rfl⟩

theorem inv_setCharge {s : St} (c) (h : Inv s) : Inv (setCharge s c).1 := by
  have h1 := inv_getCore h
  rcases setCharge_cases s c with ⟨_, e⟩ | ⟨he, hv, e⟩ | ⟨a, _, _, e⟩ <;> rw [e]
  · exact h1
  · exact ⟨fun hne => absurd ((getCore_stored s he).trans hv) hne, agree_scalars h1.2⟩
  · exact setNelec_keeps inv_nelec _ h1

theorem inv_setArr {s : St} (f v) (h : Inv s) : Inv (setArr s f v).1 := by
  obtain ⟨hi, ha⟩ := h
  unfold setArr
  cases v with
  | none =>
    refine ⟨by cases f <;> exact hi, agree_of_update ha f (fun g hg => ?_) (fun n hn => ?_)⟩
    · cases f <;> cases g <;> first | rfl | exact absurd rfl hg
    · cases f <;> first | cases hn | exact shapeOk_of_len ha hn
  | some a =>
    simp only; split
    · refine ⟨by cases f <;> exact hi, agree_of_update ha f (fun g hg => ?_) (fun n hn => ?_)⟩
      · cases f <;> cases g <;> first | rfl | exact absurd rfl hg
      · cases f <;> first | (cases hn; assumption) | exact shapeOk_of_len ha hn
    · exact ⟨hi, ha⟩

theorem inv_setAtnums {s : St} (v) (h : Inv s) : Inv (setAtnums s v).1 := by
  obtain ⟨hi, ha⟩ := h
  unfold setAtnums
  cases v with
  | none =>
    exact ⟨hi, agree_of_update ha .atnums (fun g hg => by cases g <;> first | rfl | exact absurd rfl hg)
      (fun n hn => nomatch hn)⟩
  | some a =>
    simp only; split
    · exact ⟨hi, agree_of_update ha .atnums (fun g hg => by cases g <;> first | rfl | exact absurd rfl hg)
        (fun n hn => by cases hn; assumption)⟩
    · exact ⟨hi, ha⟩

theorem agree_of_validateAll {a : St} (h : validateAll a = true) : Agree a := by
  have key : ∀ f n, lenOf a f = some n → natom a = some n := by
    intro f n hl
    have hf : f ∈ validatorOrder := by cases f <;> decide
    have := (List.all_eq_true.mp h) f hf
    rw [hl] at this
    simp only [shapeOk] at this
    cases hn : natom a with
    | none => rw [natom_none_all hn f] at hl; cases hl
    | some k => rw [hn] at this; simp at this; rw [this]
  intro f g n m hf hg
  exact Option.some.inj ((key f n hf).symm.trans (key g m hg))

theorem andThen_ok {r : St × Option Err} {f : St → St × Option Err} (hok : (andThen r f).2 = none) :
    r.2 = none := by
  unfold andThen at hok; split at hok
  · cases hok
  · assumption

theorem andThen_keeps {P : St → Prop} {r : St × Option Err} {f : St → St × Option Err} (h : r.2 = none → P r.1)
    (hf : ∀ s, P s → P (f s).1) (hok : (andThen r f).2 = none) : P (andThen r f).1 := by
  have hr := andThen_ok hok
  unfold andThen; rw [hr]; exact hf _ (h hr)

/-- a successful `__attrs_post_init__` keeps every property that holds after the replay of the core
charges and that the `charge`, `nelec` and `spinpol` setters keep -/
theorem postInit_keeps {P : St → Prop} (hcharge : ∀ s c, P s → P (setCharge s c).1)
    (hnelec : ∀ s v, P s → P (setNelec s v).1) (hspinpol : ∀ s v, P s → P (setSpinpol s v).1) {s : St}
    (hcore : (replayCore s).2 = none → P (replayCore s).1) (hok : (postInit s).2 = none) : P (postInit s).1 := by
  unfold postInit at hok ⊢
  have h3 := andThen_ok hok
  refine andThen_keeps (fun _ => andThen_keeps (fun _ => andThen_keeps hcore ?_ (andThen_ok h3)) ?_ h3) ?_ hok
  · intro s h; unfold replayCharge; split
    · exact hcharge _ _ h
    · exact h
  · intro s h; unfold replayNelec; split
    · exact hnelec _ _ h
    · exact h
  · intro s h; unfold replaySpinpol; split
    · exact hspinpol _ _ h
    · exact h

theorem construct_ok {a s : St} (h : construct a = .ok s) :
    validateAll a = true ∧ (postInit a).2 = none ∧ s = (postInit a).1 := by
  unfold construct at h
  split at h
  · rcases hp : postInit a with ⟨s', _ | e⟩ <;> rw [hp] at h <;> cases h
    exact ⟨‹_›, rfl, rfl⟩
  · cases h

theorem inv_construct {a s : St} (h : construct a = .ok s) : Inv s := by
  obtain ⟨hv, hok, rfl⟩ := construct_ok h
  have ha := agree_of_validateAll hv
  refine postInit_keeps (P := Inv) (fun _ => inv_setCharge) (fun _ => setNelec_keeps inv_nelec)
    (fun _ => setSpinpol_keeps inv_spinpol) (fun hc => ?_) hok
  unfold replayCore at hc ⊢
  split at hc
  · simp only [setCore_some] at hc ⊢
    split
    · exact inv_storeCore ha ‹_›
    · rename_i hs; rw [if_neg hs] at hc; cases hc
  · exact ⟨fun hne => absurd ‹_› hne, ha⟩

theorem inv_init : Inv init :=
  ⟨fun _ => rfl, fun f _ _ _ hf => by cases f <;> cases hf⟩

theorem inv_step {s : St} (op : Op) (h : Inv s) : Inv (step s op).1 := by
  cases op with
  | construct a =>
    simp only [step]
    cases hc : construct a with
    | ok s' => exact inv_construct hc
    | error e => exact h
  | setArr f v => exact inv_setArr f v h
  | setAtnums v => exact inv_setAtnums v h
  | setCore v => exact inv_setCore v h
  | setCharge v => exact inv_setCharge v h
  | setNelec v => exact setNelec_keeps inv_nelec v h
  | setSpinpol v => exact setSpinpol_keeps inv_spinpol v h
  | setMo m => exact ⟨h.1, agree_scalars h.2⟩
  | getCore => exact inv_getCore h
  | getCharge => simp only [step]; rw [getCharge_snd]; exact inv_getCore h
  | getNelec => exact h
  | getSpinpol => exact h
  | getNatom => exact h

theorem run_keeps {P : St → Prop} {ops : List Op} (hstep : ∀ s, ∀ op ∈ ops, P s → P (step s op).1) {s : St}
    (h : P s) : P (run s ops) := by
  induction ops generalizing s with
  | nil => exact h
  | cons op t ih =>
    exact ih (fun s o ho => hstep s o (List.mem_cons_of_mem _ ho)) (hstep s op List.mem_cons_self h)

theorem inv_run {s : St} (ops : List Op) (h : Inv s) : Inv (run s ops) :=
  run_keeps (fun _ op _ => inv_step op) h

/-- states reachable from `IOData()` by any history -/
def Reachable (s : St) : Prop := ∃ ops : List Op, run init ops = s

theorem inv_reachable {s : St} (h : Reachable s) : Inv s := by
  obtain ⟨ops, rfl⟩ := h; exact inv_run ops inv_init

theorem reachable_step {s : St} (op : Op) (h : Reachable s) : Reachable (step s op).1 := by
  obtain ⟨ops, rfl⟩ := h
  exact ⟨ops ++ [op], by simp [run, List.foldl_append]⟩

theorem getCore_val (s : St) :
    (getCore s).1 =
      match s.atcorenums, s.atnums with
      | none, some z => if shapeOk s z.length then some (toFloat z) else none
      | _, _ => s.atcorenums := by
  rcases getCore_cases s with ⟨h, hc | hc⟩ | ⟨z, hc, hz, ⟨hs, h⟩ | ⟨hs, h⟩⟩ <;> rw [h]
  · cases h1 : s.atcorenums with
    | none => exact absurd h1 hc
    | some a => rfl
  · rw [hc]; cases s.atcorenums <;> rfl
  · rw [hc, hz]; simp [hs]
  · rw [hc, hz]; simp [hs]

theorem getCore_val_setNelec (s : St) (v) : (getCore (setNelec s v).1).1 = (getCore s).1 :=
  setNelec_keeps (P := fun t => (getCore t).1 = (getCore s).1)
    (fun _ _ h => by rw [← h, getCore_val, getCore_val]; rfl) v rfl

theorem getCore_val_setSpinpol (s : St) (v) : (getCore (setSpinpol s v).1).1 = (getCore s).1 :=
  setSpinpol_keeps (P := fun t => (getCore t).1 = (getCore s).1)
    (fun _ _ h => by rw [← h, getCore_val, getCore_val]; rfl) v rfl

theorem getCore_frame (s : St) :
    let s1 := (getCore s).2.1
    s1.atnums = s.atnums ∧ s1.atcoords = s.atcoords ∧ s1.atgradient = s.atgradient ∧
    s1.atfrozen = s.atfrozen ∧ s1.atmasses = s.atmasses ∧ s1.spinpol = s.spinpol ∧ s1.mo = s.mo := by
  rcases getCore_cases s with ⟨h, _⟩ | ⟨z, _, _, ⟨_, h⟩ | ⟨_, h⟩⟩ <;> rw [h] <;>
    exact ⟨rfl, rfl, rfl, rfl, rfl, rfl, rfl⟩

theorem getCore_mo (s : St) : (getCore s).2.1.mo = s.mo := (getCore_frame s).2.2.2.2.2.2

theorem getCore_nelec_some {s : St} {n : Rat} (h : getNelec s = some n) :
    getNelec (getCore s).2.1 = some n := by
  rcases getCore_cases s with ⟨h', _⟩ | ⟨z, _, _, ⟨_, h'⟩ | ⟨_, h'⟩⟩ <;> rw [h']
  · exact h
  · unfold getNelec at h ⊢
    simp only [storeCore]
    cases hm : s.mo <;> rw [hm] at h <;> simp only at h ⊢
    · -- no orbitals: the stored count `n` survives (a count is only created when none is stored)
      rw [h]; split <;> simp_all
    · exact h
  · exact h

theorem natom_getCore {s : St} (ha : Agree s) : natom (getCore s).2.1 = natom s := by
  rcases getCore_cases s with ⟨h, _⟩ | ⟨z, _, hz, ⟨hs, h⟩ | ⟨_, h⟩⟩ <;> rw [h]
  have hl : lenOf s .atnums = some z.length := by simp [lenOf, hz]
  have ha' := (inv_storeCore (v := toFloat z) ha (by simpa [toFloat] using hs)).2
  rw [natom_eq_of_agree ha hl, natom_eq_of_agree ha' (f := .atnums) hl]

/-- the lazy default of the core charges changes no observable, provided the electron count reads
the same before and after (always the case with orbitals present, or when `_nelec` is stored) -/
theorem obs_getCore {s : St} (ha : Agree s) (hn : getNelec (getCore s).2.1 = getNelec s) :
    obs (getCore s).2.1 = obs s := by
  have hfix := getCore_fix s
  have hcfix := getCharge_fix s
  rw [getCharge_snd] at hcfix
  obtain ⟨h1, h2, h3, h4, h5, h6, hmo⟩ := getCore_frame s
  simp only [obs, Obs.mk.injEq]
  refine ⟨?_, hn, ?_, ?_, natom_getCore ha, h1, h2, h3, h4, h5, ?_, ?_⟩
  · rw [hcfix]
  · simp [getSpinpol, hmo, h6]
  · rw [hfix]
  · rw [hmo]
  · rw [hcfix, hfix, getCharge_snd]

/-- the `charge` getter on a state where the `atcorenums` getter is a pure read -/
theorem getCharge_pure {t : St} (h : t.atcorenums ≠ none ∨ t.atnums = none) :
    (getCharge t).1 = match t.atcorenums, getNelec t with
      | some a, some ne => some (sum a - ne)
      | _, _ => t.charge := by
  rcases getCore_cases t with ⟨e, _⟩ | ⟨z, hc, hz, _⟩
  · unfold getCharge; rw [e]; simp only
    cases t.atcorenums <;> cases getNelec t <;> rfl
  · rcases h with h | h
    · exact absurd hc h
    · rw [hz] at h; cases h

/-- a successful read of `atcorenums` that returns `None`: nothing is stored and there are no atomic numbers -/
theorem getCore_none {s : St} (he : (getCore s).2.2 = none) (hv : (getCore s).1 = none) :
    (getCore s).2.1.atcorenums = none ∧ (getCore s).2.1.atnums = none := by
  rcases getCore_cases s with ⟨e, hc⟩ | ⟨z, _, _, ⟨_, e⟩ | ⟨_, e⟩⟩ <;> rw [e] at hv he ⊢
  · exact ⟨hv, hc.resolve_left fun hc => hc hv⟩
  · cases hv
  · cases he

/-- a successful assignment of the charge reads back: stored as `_charge` when no core charges are available,
else as the electron count `Σ atcorenums - charge` -/
theorem getCharge_setCharge {s : St} (hi : Inv s) (c : Option Rat) (hok : (setCharge s c).2 = none) :
    (getCharge (setCharge s c).1).1 = c := by
  have h1 := (inv_getCore hi).1
  rcases setCharge_cases s c with ⟨he, e⟩ | ⟨he, hv, e⟩ | ⟨a, he, hv, e⟩ <;> rw [e] at hok ⊢
  · exact absurd hok he
  · obtain ⟨hc, hz⟩ := getCore_none he hv
    generalize (getCore s).2.1 = s1 at hc hz ⊢
    refine (getCharge_pure (t := { s1 with charge := c }) (.inr hz)).trans ?_; simp only [hc]
  · have hst : (getCore s).2.1.atcorenums = some a := (getCore_stored s he).trans hv
    generalize (getCore s).2.1 = s1 at h1 hst hok ⊢
    unfold setNelec at hok ⊢
    cases hm : s1.mo with
    | some m => rw [hm] at hok; cases hok
    | none =>
      simp only
      refine (getCharge_pure (.inl (by rw [show _ = some a from hst]; nofun))).trans ?_
      cases c with
      | none => simp [hst, getNelec, h1 (by rw [hst]; nofun)]
      | some c => simp [hst, getNelec]; grind

theorem raise_keeps_state {s x : St} {c : Prop} [Decidable c] {e : Err}
    (h : (if c then (x, none) else (s, some e)).2 ≠ none) : (if c then (x, none) else (s, some e)).1 = s := by
  split
  · rename_i hc; rw [if_pos hc] at h; exact absurd rfl h
  · rfl

theorem setNelec_err {s : St} {v} (h : (setNelec s v).2 ≠ none) : (setNelec s v).1 = s ∧ s.mo ≠ none := by
  unfold setNelec at h ⊢
  cases hm : s.mo with
  | none => rw [hm] at h; exact absurd rfl h
  | some m => exact ⟨rfl, nofun⟩

theorem setSpinpol_err {s : St} {v} (h : (setSpinpol s v).2 ≠ none) : (setSpinpol s v).1 = s := by
  unfold setSpinpol at h ⊢
  cases hm : s.mo with
  | none => rw [hm] at h; exact absurd rfl h
  | some m => rfl

/-- an operation that raises leaves the state as it was, or, when the `charge` setter or getter raise,
as the lazy default of the core charges left it -/
theorem step_err_state {s : St} (op : Op) (h : (step s op).2.1 ≠ none) :
    (step s op).1 = s ∨
    ((step s op).1 = (getCore s).2.1 ∧ (s.mo ≠ none ∨ (getCore s).2.2 ≠ none)) := by
  cases op with
  | construct a =>
    simp only [step] at h ⊢
    cases hc : construct a with
    | ok s' => rw [hc] at h; exact absurd rfl h
    | error e => exact .inl rfl
  | setArr f v =>
    cases v with
    | none => exact absurd rfl h
    | some a => exact .inl (raise_keeps_state (c := shapeOk s a.length = true) h)
  | setAtnums v =>
    cases v with
    | none => exact absurd rfl h
    | some a => exact .inl (raise_keeps_state (c := shapeOk s a.length = true) h)
  | setCore v =>
    cases v with
    | none => exact absurd rfl h
    | some a => simp only [step, setCore_some] at h ⊢; exact .inl (raise_keeps_state h)
  | setCharge c =>
    simp only [step] at h ⊢
    rcases setCharge_cases s c with ⟨he, hs⟩ | ⟨_, _, hs⟩ | ⟨a, _, _, hs⟩ <;> rw [hs] at h ⊢
    · exact .inr ⟨rfl, .inr he⟩
    · exact absurd rfl h
    · exact .inr ⟨(setNelec_err h).1, .inl (getCore_mo s ▸ (setNelec_err h).2)⟩
  | setNelec v => exact .inl (setNelec_err h).1
  | setSpinpol v => exact .inl (setSpinpol_err h)
  | setMo m => exact absurd rfl h
  | getCore => exact .inr ⟨rfl, .inr h⟩
  | getCharge => exact .inr ⟨congrArg Prod.fst (getCharge_snd s), .inr (getCharge_snd s ▸ h)⟩
  | getNelec => exact .inl rfl
  | getSpinpol => exact .inl rfl
  | getNatom => exact .inl rfl

/-- the stored core charges are absent or equal to the atomic numbers -/
def CoreDef (s : St) : Prop := s.atcorenums = none ∨ s.atcorenums = s.atnums.map toFloat

/-- operations that neither assign core charges explicitly nor re-assign `atnums` on an existing
object (construction with `atnums` is fine) -/
def usesDefault : Op → Bool
  | .setCore (some _) => false
  | .setAtnums _ => false
  | .construct a => a.atcorenums.isNone
  | _ => true

/-- every operation other than an explicit `atcorenums = <array>` (or construction with one) -/
def notExplicit : Op → Bool
  | .setCore (some _) => false
  | .construct a => a.atcorenums.isNone
  | _ => true

theorem coreDef_getCore {s : St} (h : CoreDef s) : CoreDef (getCore s).2.1 := by
  rcases getCore_cases s with ⟨h', _⟩ | ⟨z, _, hz, ⟨_, h'⟩ | ⟨_, h'⟩⟩ <;> rw [h']
  · exact h
  · exact .inr (congrArg (Option.map toFloat) hz).symm
  · exact h

theorem coreDef_setCharge {s : St} (c) (h : CoreDef s) : CoreDef (setCharge s c).1 := by
  have h1 := coreDef_getCore h
  rcases setCharge_cases s c with ⟨_, hs⟩ | ⟨_, _, hs⟩ | ⟨a, _, _, hs⟩ <;> rw [hs]
  · exact h1
  · exact h1
  · exact setNelec_keeps (fun _ _ h => h) _ h1

theorem coreDef_step {s : St} (op : Op) (hop : usesDefault op = true) (h : CoreDef s) :
    CoreDef (step s op).1 := by
  cases op with
  | construct a =>
    simp only [step]
    cases hc : construct a with
    | ok s' =>
      obtain ⟨_, hok, rfl⟩ := construct_ok hc
      have ha : a.atcorenums = none := by simpa [usesDefault] using hop
      refine postInit_keeps (P := CoreDef) (fun _ => coreDef_setCharge) (fun _ => setNelec_keeps fun _ _ h => h)
        (fun _ => setSpinpol_keeps fun _ _ h => h) (fun _ => ?_) hok
      unfold replayCore; rw [ha]; exact .inl ha
    | error e => exact h
  | setArr f v =>
    simp only [step, setArr]
    cases v with
    | none => cases f <;> exact h
    | some a =>
      simp only; split
      · cases f <;> exact h
      · exact h
  | setAtnums v => cases hop
  | setCore v =>
    cases v with
    | none => exact .inl rfl
    | some a => cases hop
  | setCharge v => exact coreDef_setCharge v h
  | setNelec v => exact setNelec_keeps (P := CoreDef) (fun _ _ h => h) v h
  | setSpinpol v => exact setSpinpol_keeps (P := CoreDef) (fun _ _ h => h) v h
  | setMo m => exact h
  | getCore => exact coreDef_getCore h
  | getCharge => simp only [step]; rw [getCharge_snd]; exact coreDef_getCore h
  | getNelec => exact h
  | getSpinpol => exact h
  | getNatom => exact h

theorem coreDef_read {s : St} (ha : Agree s) (h : CoreDef s) :
    (getCore s).1 = s.atnums.map toFloat := by
  rw [getCore_val]
  cases hc : s.atcorenums with
  | some a =>
    rcases h with h | h
    · rw [hc] at h; cases h
    · rw [hc] at h; cases hz : s.atnums <;> simp [hz] at h ⊢ <;> exact h
  | none =>
    cases hz : s.atnums with
    | none => rfl
    | some z => simp [shapeOk_of_len ha (g := .atnums) (by simp [lenOf, hz] : _ = some z.length)]

end Iodata.IOD
