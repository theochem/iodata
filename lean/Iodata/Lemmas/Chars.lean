/- Lemmas about `Model/Chars.lean`: tokenizer, strip, slices of concatenated fixed-width fields.  The central notion for
the tokenizer is `Brk r` (empty or starting with a blank): exactly then `split` distributes over `s ++ r`. -/
import Iodata.Model.Chars
namespace Iodata.Chars

theorem allWs_nil : AllWs [] := by intro c h; cases h
theorem noWs_nil : NoWs [] := by intro c h; cases h
theorem allWs_spaces (n : Nat) : AllWs (spaces n) := by
  intro c h; simp [spaces] at h; rw [h.2]; decide
theorem allWs_append {a b : Str} (ha : AllWs a) (hb : AllWs b) : AllWs (a ++ b) :=
  fun c h => (List.mem_append.mp h).elim (ha c) (hb c)
theorem noWs_append {a b : Str} (ha : NoWs a) (hb : NoWs b) : NoWs (a ++ b) :=
  fun c h => (List.mem_append.mp h).elim (ha c) (hb c)
theorem allWs_cons {c : Char} {s : Str} (hc : isWs c = true) (hs : AllWs s) : AllWs (c :: s) :=
  List.forall_mem_cons.mpr ⟨hc, hs⟩
theorem noWs_cons {c : Char} {s : Str} (hc : isWs c = false) (hs : NoWs s) : NoWs (c :: s) :=
  List.forall_mem_cons.mpr ⟨hc, hs⟩
theorem allWs_nl : AllWs ['\n'] := by decide

/-- the string is empty or starts with a blank (so a token before it is terminated): `brkB` as a proposition -/
def Brk (s : Str) : Prop := s = [] ∨ ∃ c r, s = c :: r ∧ isWs c = true

theorem brk_nil : Brk [] := Or.inl rfl
theorem brk_of_brkB {s : Str} (h : brkB s = true) : Brk s := by
  cases s with
  | nil => exact Or.inl rfl
  | cons c r => exact Or.inr ⟨c, r, rfl, h⟩
theorem brk_cons {c : Char} (r : Str) (h : isWs c = true) : Brk (c :: r) := Or.inr ⟨c, r, rfl, h⟩
theorem brk_space (r : Str) : Brk (' ' :: r) := brk_cons r (by decide)
theorem brk_nl (r : Str) : Brk ('\n' :: r) := brk_cons r (by decide)
theorem brk_allWs_append {p : Str} (r : Str) (hp : AllWs p) (hr : Brk r) : Brk (p ++ r) := by
  cases p with
  | nil => simpa using hr
  | cons c p => exact brk_cons _ (hp c (List.mem_cons_self))
theorem brk_allWs_ne_nil_append {p : Str} (r : Str) (hp : AllWs p) (hne : p ≠ []) : Brk (p ++ r) := by
  cases p with
  | nil => exact absurd rfl hne
  | cons c p => exact brk_cons _ (hp c (List.mem_cons_self))
theorem brk_of_allWs {p : Str} (hp : AllWs p) : Brk p := by
  have := brk_allWs_append [] hp brk_nil; simpa using this

theorem splitGo_tok (t : Str) : ∀ (cur rest : Str), NoWs t → splitGo cur (t ++ rest) = splitGo (cur ++ t) rest := by
  induction t with
  | nil => intro cur rest _; simp
  | cons c t ih =>
    intro cur rest h
    obtain ⟨hc, ht⟩ := List.forall_mem_cons.mp h
    simp only [List.cons_append, splitGo, hc]
    rw [ih (cur ++ [c]) rest ht]
    simp

theorem splitGo_ws (p : Str) : ∀ (rest : Str), AllWs p → splitGo [] (p ++ rest) = splitGo [] rest := by
  induction p with
  | nil => intro rest _; rfl
  | cons c p ih =>
    intro rest h
    obtain ⟨hc, hp⟩ := List.forall_mem_cons.mp h
    simp only [List.cons_append, splitGo, hc, if_true, List.isEmpty_nil]
    exact ih rest hp

/-- `(s + r).split() == s.split() + r.split()` when `r` is empty or starts with a blank: only then is the token collected
in `cur` at the end of `s` flushed instead of being continued by `r` -/
theorem splitGo_append_brk (s r : Str) (hr : Brk r) : ∀ cur, splitGo cur (s ++ r) = splitGo cur s ++ splitGo [] r := by
  induction s with
  | nil =>
    intro cur
    rcases hr with h | ⟨c, r', h, hc⟩
    · subst h; simp [splitGo]
    · subst h
      by_cases hcur : cur.isEmpty = true <;> simp [splitGo, hc, hcur]
  | cons c s ih =>
    intro cur
    by_cases hc : isWs c = true
    · by_cases hcur : cur.isEmpty = true <;> simp [splitGo, hc, hcur, ih]
    · simp [splitGo, hc, ih]

theorem splitWs_append_brk (s r : Str) (hr : Brk r) : splitWs (s ++ r) = splitWs s ++ splitWs r :=
  splitGo_append_brk s r hr []

theorem splitGo_brk (t rest : Str) (ht : t ≠ []) (hr : Brk rest) :
    splitGo t rest = t :: splitGo [] rest := by
  have := splitGo_append_brk [] rest hr t
  cases t with
  | nil => exact absurd rfl ht
  | cons c t => simpa [splitGo] using this

theorem splitWs_field (p t rest : Str) (hp : AllWs p) (ht : NoWs t) (hne : t ≠ []) (hr : Brk rest) :
    splitWs (p ++ (t ++ rest)) = t :: splitWs rest := by
  unfold splitWs
  rw [splitGo_ws p _ hp, splitGo_tok t [] rest ht]
  simpa using splitGo_brk t rest hne hr

theorem splitWs_allWs (p : Str) (hp : AllWs p) : splitWs p = [] := by
  have := splitGo_ws p [] hp
  simpa [splitWs, splitGo] using this

theorem splitWs_nl : splitWs ['\n'] = [] := splitWs_allWs _ allWs_nl

theorem splitWs_tok (t rest : Str) (ht : NoWs t) (hne : t ≠ []) (hr : Brk rest) :
    splitWs (t ++ rest) = t :: splitWs rest := by
  simpa using splitWs_field [] t rest allWs_nil ht hne hr

/-- `" ".join(ts).split() == ts` for non-empty blank-free tokens -/
theorem splitWs_joinSp (ts : List Str) (h : ∀ t ∈ ts, NoWs t ∧ t ≠ []) :
    splitWs (List.intercalate [' '] ts) = ts := by
  induction ts with
  | nil => rfl
  | cons t ts ih =>
    obtain ⟨ht, hts⟩ := List.forall_mem_cons.mp h
    cases ts with
    | nil =>
      have := splitWs_tok t [] ht.1 ht.2 brk_nil
      simpa [List.intercalate, splitWs_allWs [] allWs_nil] using this
    | cons u us =>
      have e : List.intercalate [' '] (t :: u :: us) = t ++ (' ' :: List.intercalate [' '] (u :: us)) := by
        simp [List.intercalate]
      rw [e, splitWs_tok t _ ht.1 ht.2 (brk_space _)]
      exact congrArg (t :: ·) ((splitGo_ws [' '] _ (by decide)).trans (ih hts))

theorem lstrip_allWs_append (p s : Str) (hp : AllWs p) : lstrip (p ++ s) = lstrip s :=
  List.dropWhile_append_of_pos hp

theorem rstrip_allWs (q : Str) (hq : AllWs q) : rstrip q = [] := by
  induction q with
  | nil => rfl
  | cons c q ih =>
    obtain ⟨hc, hq'⟩ := List.forall_mem_cons.mp hq
    simp [rstrip, ih hq', hc]

theorem rstrip_append_allWs (t q : Str) (hq : AllWs q) : rstrip (t ++ q) = rstrip t := by
  induction t with
  | nil => simpa [rstrip] using rstrip_allWs q hq
  | cons c t ih => simp [rstrip, ih]

theorem isWs_head_of_lstrip {c : Char} {t : Str} (h : lstrip (c :: t) = c :: t) : isWs c = false := by
  unfold lstrip at h
  have := List.head_dropWhile_not isWs (l := c :: t) (by rw [h]; exact List.cons_ne_nil _ _)
  simpa only [h, List.head_cons] using this

theorem lstrip_append_of_fix (t q : Str) (ht : lstrip t = t) (hq : AllWs q) :
    lstrip (t ++ q) = if t = [] then [] else t ++ q := by
  cases t with
  | nil => simpa [lstrip] using lstrip_allWs_append q [] hq
  | cons c t => simp [lstrip, isWs_head_of_lstrip ht]

/-- `(pad + t + pad').strip() == t` for a trimmed `t` -/
theorem strip_pad (p t q : Str) (hp : AllWs p) (hq : AllWs q) (ht : Trimmed t) :
    strip (p ++ (t ++ q)) = t := by
  unfold strip
  rw [lstrip_allWs_append p _ hp, lstrip_append_of_fix t q ht.1 hq]
  by_cases h : t = []
  · subst h; rfl
  · rw [if_neg h, rstrip_append_allWs t q hq]; exact ht.2

theorem lstrip_noWs (t : Str) (h : NoWs t) : lstrip t = t := by
  cases t with
  | nil => rfl
  | cons c t => simp [lstrip, h c (List.mem_cons_self)]

theorem rstrip_noWs (t : Str) (h : NoWs t) : rstrip t = t := by
  induction t with
  | nil => rfl
  | cons c t ih =>
    obtain ⟨hc, ht⟩ := List.forall_mem_cons.mp h
    simp [rstrip, ih ht, hc]

theorem trimmed_of_noWs (t : Str) (h : NoWs t) : Trimmed t := ⟨lstrip_noWs t h, rstrip_noWs t h⟩

theorem strip_noWs_pad (p t q : Str) (hp : AllWs p) (hq : AllWs q) (ht : NoWs t) :
    strip (p ++ (t ++ q)) = t := strip_pad p t q hp hq (trimmed_of_noWs t ht)

theorem rstrip_cons {c : Char} (hc : isWs c = false) (s : Str) : rstrip (c :: s) = c :: rstrip s := by
  simp [rstrip, hc]

theorem rstrip_append_noWs (u t : Str) (ht : NoWs t) (hne : t ≠ []) : rstrip (u ++ t) = u ++ t := by
  induction u with
  | nil => exact rstrip_noWs t ht
  | cons c u ih =>
    have : (u ++ t).isEmpty = false := by simpa using fun _ => hne
    simp only [List.cons_append, rstrip, ih, this, Bool.false_and, Bool.false_eq_true, if_false]

theorem strip_vis (p : Str) (hp : AllWs p) {c : Char} (hc : isWs c = false) (r : Str) :
    strip (p ++ c :: r) = c :: rstrip r := by
  unfold strip
  rw [lstrip_allWs_append p _ hp]
  simp [lstrip, hc, rstrip_cons hc]

theorem strip_vis_line {c : Char} (hc : isWs c = false) {s : Str} (hs : rstrip s = s) (q : Str) (hq : AllWs q) :
    strip (c :: (s ++ q)) = c :: s := by
  simpa [rstrip_append_allWs _ _ hq, hs] using strip_vis [] allWs_nil hc (s ++ q)

theorem lstrip_decomp : ∀ s : Str, ∃ p, AllWs p ∧ s = p ++ lstrip s
  | [] => ⟨[], allWs_nil, rfl⟩
  | c :: s => by
    by_cases hc : isWs c = true
    · obtain ⟨p, hp, e⟩ := lstrip_decomp s
      exact ⟨c :: p, allWs_cons hc hp, by simpa [lstrip, hc] using e⟩
    · exact ⟨[], allWs_nil, by simp [lstrip, hc]⟩

theorem rstrip_decomp : ∀ t : Str, ∃ q, AllWs q ∧ t = rstrip t ++ q
  | [] => ⟨[], allWs_nil, rfl⟩
  | c :: t => by
    obtain ⟨q, hq, e⟩ := rstrip_decomp t
    by_cases h : rstrip t = [] ∧ isWs c = true
    · refine ⟨c :: t, allWs_cons h.2 ?_, by simp [rstrip, h.1, h.2]⟩
      rw [e, h.1]; exact hq
    · refine ⟨q, hq, ?_⟩
      have : ((rstrip t).isEmpty && isWs c) = false := by simpa using h
      simp only [rstrip, this, Bool.false_eq_true, if_false, List.cons_append, ← e]

/-- a string is its `strip` between blanks -/
theorem strip_decomp (s : Str) : ∃ p q, AllWs p ∧ AllWs q ∧ s = p ++ (strip s ++ q) := by
  obtain ⟨p, hp, e1⟩ := lstrip_decomp s
  obtain ⟨q, hq, e2⟩ := rstrip_decomp (lstrip s)
  exact ⟨p, q, hp, hq, by rw [strip, ← e2, ← e1]⟩

theorem mem_of_mem_strip {c : Char} {s : Str} (h : c ∈ strip s) : c ∈ s := by
  obtain ⟨p, q, -, -, e⟩ := strip_decomp s
  rw [e]; simp [h]

theorem splitWs_strip (s : Str) : splitWs (strip s) = splitWs s := by
  obtain ⟨p, q, hp, hq, e⟩ := strip_decomp s
  calc splitWs (strip s) = splitWs (strip s ++ q) := by
        rw [splitWs_append_brk _ q (brk_of_allWs hq), splitWs_allWs q hq, List.append_nil]
    _ = splitWs (p ++ (strip s ++ q)) := (splitGo_ws p _ hp).symm
    _ = splitWs s := by rw [← e]

theorem rstrip_idem (u : Str) : rstrip (rstrip u) = rstrip u := by
  obtain ⟨q, hq, e⟩ := rstrip_decomp u
  conv => rhs; rw [e]
  exact (rstrip_append_allWs _ q hq).symm

theorem trimmed_strip (s : Str) : Trimmed (strip s) := by
  refine ⟨?_, rstrip_idem _⟩
  unfold strip
  cases h : lstrip s with
  | nil => rfl
  | cons c r =>
    have hc : isWs c = false := by
      have := List.head_dropWhile_not isWs (l := s) (by rw [show s.dropWhile isWs = c :: r from h]; simp)
      simpa [show s.dropWhile isWs = c :: r from h] using this
    rw [rstrip_cons hc]; simp [lstrip, hc]

theorem strip_strip (s : Str) : strip (strip s) = strip s := by
  simpa using strip_pad [] (strip s) [] allWs_nil allWs_nil (trimmed_strip s)

theorem strip_append_allWs (s q : Str) (hq : AllWs q) : strip (s ++ q) = strip s := by
  unfold strip lstrip
  rw [List.dropWhile_append]
  split
  · rename_i h
    have hq' : q.dropWhile isWs = [] := by simpa [lstrip] using lstrip_allWs_append q [] hq
    rw [List.isEmpty_iff.mp h, hq']
  · exact rstrip_append_allWs _ _ hq

theorem strip_allWs (s : Str) (h : AllWs s) : strip s = [] := by
  simpa using strip_pad s [] [] h allWs_nil ⟨rfl, rfl⟩

theorem strip_ne_nil (s : Str) (c : Char) (hc : c ∈ s) (hw : isWs c = false) : (strip s).isEmpty = false := by
  obtain ⟨p, q, hp, hq, e⟩ := strip_decomp s
  cases h : strip s with
  | cons _ _ => rfl
  | nil =>
    rw [e, h] at hc
    have := allWs_append hp hq c (by simpa using hc)
    rw [hw] at this; cases this

theorem splitWs_ljust (w : Nat) (s : Str) (h1 : NoWs s) (h2 : s ≠ []) : splitWs (ljust w s) = [s] := by
  have := splitWs_field [] s (spaces (w - s.length)) allWs_nil h1 h2 (brk_of_allWs (allWs_spaces _))
  simpa [ljust, splitWs_allWs _ (allWs_spaces _)] using this

theorem splitWs_rjust (w : Nat) (s : Str) (h1 : NoWs s) (h2 : s ≠ []) : splitWs (rjust w s) = [s] := by
  have := splitWs_field (spaces (w - s.length)) s [] (allWs_spaces _) h1 h2 brk_nil
  simpa [rjust, splitWs_allWs [] allWs_nil] using this

theorem slice_mid (a b : Nat) (x y z : Str) (hx : x.length = a) (hy : y.length = b - a) :
    slice a b (x ++ (y ++ z)) = y := by
  unfold slice
  rw [List.drop_append_of_le_length (by omega)]
  have : List.drop a x = [] := by apply List.drop_eq_nil_of_le; omega
  rw [this, List.nil_append, List.take_append_of_le_length (by omega)]
  apply List.take_of_length_le; omega

theorem slice_zero (b : Nat) (y z : Str) (hy : y.length = b) : slice 0 b (y ++ z) = y := by
  have := slice_mid 0 b [] y z rfl (by simpa using hy); simpa using this

theorem sliceFrom_append (a : Nat) (x z : Str) (hx : x.length = a) : sliceFrom a (x ++ z) = z := by
  unfold sliceFrom; subst hx; simp

theorem length_spaces (n : Nat) : (spaces n).length = n := by simp [spaces]
theorem spaces_ne_nil {n : Nat} (h : 0 < n) : spaces n ≠ [] := by
  intro e; have := congrArg List.length e; rw [length_spaces] at this; subst this; cases h
theorem length_rjust (w : Nat) (s : Str) (h : s.length ≤ w) : (rjust w s).length = w := by
  simp [rjust, spaces]; omega
theorem length_ljust (w : Nat) (s : Str) (h : s.length ≤ w) : (ljust w s).length = w := by
  simp [ljust, spaces]; omega

theorem brk_rjust_append (w : Nat) (t r : Str) (h : t.length < w) : Brk (rjust w t ++ r) := by
  rw [rjust, List.append_assoc]
  exact brk_allWs_ne_nil_append _ (allWs_spaces _) (spaces_ne_nil (by omega))

theorem toNat_ofNat {n : Nat} (h : n < 0xd800) : (Char.ofNat n).toNat = n := by
  simp [Char.ofNat, Nat.isValidChar, h, Char.ofNatAux, Char.toNat]

theorem isUpperA_iff {c : Char} : isUpperA c = true ↔ 65 ≤ c.toNat ∧ c.toNat ≤ 90 := by
  simp [isUpperA, Char.le_def, UInt32.le_iff_toNat_le]
theorem isLowerA_iff {c : Char} : isLowerA c = true ↔ 97 ≤ c.toNat ∧ c.toNat ≤ 122 := by
  simp [isLowerA, Char.le_def, UInt32.le_iff_toNat_le]

theorem toNat_upperC (c : Char) :
    (upperC c).toNat = if 97 ≤ c.toNat ∧ c.toNat ≤ 122 then c.toNat - 32 else c.toNat := by
  simp only [← isLowerA_iff, upperC]
  split
  · rename_i h; exact toNat_ofNat (by have := isLowerA_iff.mp h; omega)
  · rfl
theorem toNat_lowerC (c : Char) :
    (lowerC c).toNat = if 65 ≤ c.toNat ∧ c.toNat ≤ 90 then c.toNat + 32 else c.toNat := by
  simp only [← isUpperA_iff, lowerC]
  split
  · rename_i h; exact toNat_ofNat (by have := isUpperA_iff.mp h; omega)
  · rfl

theorem lowerC_upperC {c : Char} (h : isLowerA c = true) : lowerC (upperC c) = c := by
  have hc := isLowerA_iff.mp h
  apply Char.toNat_inj.mp
  rw [toNat_lowerC, toNat_upperC, if_pos hc, if_pos (by omega)]; omega
theorem upperC_lowerC {c : Char} (h : isUpperA c = true) : upperC (lowerC c) = c := by
  have hc := isUpperA_iff.mp h
  apply Char.toNat_inj.mp
  rw [toNat_upperC, toNat_lowerC, if_pos hc, if_pos (by omega)]; omega

theorem upperC_lowerC_upperC (c : Char) : upperC (lowerC (upperC c)) = upperC c := by
  by_cases hl : isLowerA c = true
  · rw [lowerC_upperC hl]
  · have e : upperC c = c := if_neg hl
    rw [e]
    by_cases hu : isUpperA c = true
    · exact upperC_lowerC hu
    · rw [show lowerC c = c from if_neg hu, e]

theorem isWs_toNat {c : Char} (h : isWs c = true) : c.toNat ≤ 32 ∨ 127 ≤ c.toNat := by
  simp only [isWs, Bool.or_eq_true, beq_iff_eq] at h
  rcases h with (((((((((((rfl | rfl) | rfl) | rfl) | rfl) | rfl) | rfl) | rfl) | rfl) | rfl) | rfl) | rfl) <;> decide

theorem head_beq_false {c d : Char} {s : Str} (h : d ∉ c :: s) : (c == d) = false :=
  beq_eq_false_iff_ne.mpr (List.ne_of_not_mem_cons h).symm

theorem splitLinesGo_body (b : Str) : ∀ (cur rest : Str), '\n' ∉ b →
    splitLinesGo cur (b ++ rest) = splitLinesGo (cur ++ b) rest := by
  induction b with
  | nil => intro cur rest _; simp
  | cons c b ih =>
    intro cur rest h
    have hc := head_beq_false h
    have hb : '\n' ∉ b := fun hx => h (List.mem_cons_of_mem _ hx)
    simp only [List.cons_append, splitLinesGo, hc]
    rw [ih (cur ++ [c]) rest hb]; simp

/-- the bytes of a file written line by line with `print` split back into exactly those lines -/
theorem splitLines_flatten (bodies : List Str) (h : ∀ b ∈ bodies, '\n' ∉ b) :
    splitLines ((bodies.map ln).flatten) = bodies.map ln := by
  unfold splitLines
  induction bodies with
  | nil => rfl
  | cons b bs ih =>
    obtain ⟨hb, hbs⟩ := List.forall_mem_cons.mp h
    simp only [List.map_cons, List.flatten_cons, ln, List.append_assoc]
    rw [splitLinesGo_body b [] _ hb]
    simp only [List.nil_append, List.cons_append, splitLinesGo]
    simp [ih hbs]

end Iodata.Chars
