/-
C04 — why consistency across formats follows from the table of prescribed units: a load row and a dump row that
each agree with the same unit value agree with each other.
-/
import Iodata.Model.Units
import Mathlib.Algebra.Order.Field.Rat
import Mathlib.Algebra.Order.Ring.Abs
import Mathlib.Tactic.Linarith
import Mathlib.Tactic.Ring

namespace Iodata.Units

lemma rabs_eq_abs (x : Rat) : rabs x = |x| := by
  unfold rabs
  split
  · next h => exact (abs_of_neg h).symm
  · next h => exact (abs_of_nonneg (not_lt.mp h)).symm

/-- A file number `la` that loads as `lb ≈ la·c` (relative `ρ`, no resolution limit) and an attribute `da` that is
printed as `db ≈ da/c` (relative `ρ`, print quantum `sd`) compose to the identity up to `3ρ`, whatever the unit
value `c` is. -/
lemma cross_of_agree (ρ c la lb da db sd : Rat) (hρ0 : 0 ≤ ρ) (hρ1 : ρ ≤ 1 / 2)
    (hl : |lb - la * c| ≤ ρ * |la * c|) (hd : |db * c - da| ≤ ρ * |da| + sd * |c|) :
    |lb * db - la * da| ≤ 3 * ρ * |la * da| + |lb| * sd := by
  rcases eq_or_ne c 0 with rfl | hc
  · simp only [mul_zero, sub_zero, abs_zero, zero_sub, abs_neg, add_zero] at hl hd
    have hlb : lb = 0 := abs_eq_zero.mp (le_antisymm hl (abs_nonneg lb))
    have hda : da = 0 :=
      abs_eq_zero.mp (by linarith only [hd, mul_le_mul_of_nonneg_right hρ1 (abs_nonneg da), abs_nonneg da])
    simp [hlb, hda]
  · have hc0 : 0 < |c| := abs_pos.mpr hc
    have hlb : |lb| ≤ (1 + ρ) * |la * c| := by
      linarith only [abs_sub_abs_le_abs_sub lb (la * c), hl]
    -- the idea: c·(lb·db − la·da) = lb·(db·c − da) + (lb − la·c)·da, both brackets are small
    have key : |c| * |lb * db - la * da| ≤ |lb| * |db * c - da| + |lb - la * c| * |da| := by
      rw [← abs_mul, ← abs_mul, ← abs_mul]
      refine le_trans (le_of_eq ?_) (abs_add_le _ _)
      congr 1; ring
    refine le_of_mul_le_mul_left ?_ hc0
    rw [abs_mul] at hl hlb
    rw [abs_mul la da]
    -- the three bounds times the nonnegative factors they meet in `key`; `ρ² ≤ ρ` absorbs the second-order term
    linarith only [key, mul_le_mul_of_nonneg_left hd (abs_nonneg lb),
      mul_le_mul_of_nonneg_right hl (abs_nonneg da),
      mul_le_mul_of_nonneg_right (mul_le_mul_of_nonneg_left hlb hρ0) (abs_nonneg da),
      mul_nonneg (sub_nonneg.mpr (hρ1.trans (by norm_num : (1 : Rat) / 2 ≤ 1)))
        (mul_nonneg hρ0 (mul_nonneg (mul_nonneg (abs_nonneg la) hc0.le) (abs_nonneg da)))]

lemma relRow_bounds : 0 ≤ relRow ∧ relRow ≤ 1 / 2 := by decide +kernel

lemma rowOk_unit {cs : List (String × Rat)} {r : Row} (h : rowOk cs r = true) :
    ∃ u c, specUnit r.fmt r.qty = some u ∧ unitOf cs u = some c ∧ rowOkWith r c = true := by
  unfold rowOk at h
  split at h
  · cases h
  · next u hu =>
    split at h
    · next c hc => exact ⟨u, c, hu, hc, (Bool.and_eq_true _ _ ▸ h).2⟩
    · cases h

/-- what `crossAll` asks of one pair of rows: `crossAll rs = rs.all fun l => rs.all (crossPair l)` by `rfl` -/
def crossPair (l d : Row) : Bool :=
  if l.dir == "load" && d.dir == "dump" && l.qty == d.qty && !isKnown l.fmt l.qty && !isKnown d.fmt d.qty
      && specUnit l.fmt l.qty == specUnit d.fmt d.qty && (specUnit l.fmt l.qty).isSome
  then crossOk l d else true

/-- If every row outside the known ones agrees with the unit its format prescribes, then every load row is
consistent with every dump row of the same quantity and unit: both agree with the same unit value
(`cross_of_agree`).  Only load rows with a resolution limit of their own (`slack ≠ 0`, which the argument does not
cover) have to be compared with the dump rows one by one. -/
theorem crossAll_of_rowOk (cs : List (String × Rat)) (rs : List Row)
    (hok : (rs.all fun r => isKnown r.fmt r.qty || rowOk cs r) = true)
    (hslack : ((rs.filter fun l => l.dir == "load" && l.slack != 0).all fun l => rs.all (crossPair l)) = true) :
    crossAll rs = true := by
  unfold crossAll
  rw [List.all_eq_true]; intro l hl
  rw [List.all_eq_true]; intro d hd
  split
  · next hc =>
    by_cases hs : l.slack = 0
    · simp only [Bool.and_eq_true, beq_iff_eq, Bool.not_eq_true'] at hc
      obtain ⟨⟨⟨⟨⟨⟨hld, hdd⟩, _⟩, hkl⟩, hkd⟩, hu⟩, _⟩ := hc
      have hl' := List.all_eq_true.mp hok l hl
      have hd' := List.all_eq_true.mp hok d hd
      rw [hkl, Bool.false_or] at hl'
      rw [hkd, Bool.false_or] at hd'
      obtain ⟨u, c, hul, hcl, hrl⟩ := rowOk_unit hl'
      obtain ⟨u', c', hud, hcd, hrd⟩ := rowOk_unit hd'
      rw [hul, hud, Option.some.injEq] at hu
      subst hu
      rw [hcl, Option.some.injEq] at hcd
      subst hcd
      simp only [rowOkWith, hld, String.reduceBEq, Bool.false_eq_true, if_false, if_true, hs, add_zero,
        decide_eq_true_eq, rabs_eq_abs] at hrl
      simp only [rowOkWith, hdd, String.reduceBEq, Bool.false_eq_true, if_false, decide_eq_true_eq,
        rabs_eq_abs] at hrd
      simp only [crossOk, hs, mul_zero, add_zero, decide_eq_true_eq, rabs_eq_abs]
      exact cross_of_agree relRow c l.a l.b d.a d.b d.slack relRow_bounds.1 relRow_bounds.2 hrl hrd
    · have hld : (l.dir == "load") = true := by
        simp only [Bool.and_eq_true] at hc; exact hc.1.1.1.1.1.1
      have := List.all_eq_true.mp hslack l (List.mem_filter.mpr ⟨hl, by simpa [hld] using hs⟩)
      have := List.all_eq_true.mp this d hd
      rwa [crossPair, if_pos hc] at this
  · rfl

end Iodata.Units
