/- What the `prepare_dump` bodies of `Iodata/Model/Prepare.lean` decide: the FCHK occupation test accepts exactly the
aufbau lists, and each body is a decision table over a few Booleans of the object (`needS`, `needU`, `moHard`) whose
returned outcomes all satisfy `RetOk`.  `prepBeh` hands the decision to the flow model of `api.dump_one`;
`Skel.ofList_append3` is what the comparison of the generated statement skeletons needs. -/
import Iodata.Model.Prepare
import Iodata.Lemmas.Segment
import Iodata.Lemmas.Flow2
import Mathlib.Data.Rat.Floor
import Mathlib.Algebra.Order.Field.Rat
import Mathlib.Tactic.Linarith
namespace Iodata.Prep
open Iodata.Orb Iodata.Seg

theorem ret_ne_raised {d : Obj} {same : Bool} {ws : List Warn} {c : Cls} {r : Reason} :
    Outcome.ret d same ws ≠ .raised c r := fun h => Outcome.noConfusion h

theorem ret_not_rejection {d : Obj} {same : Bool} {ws : List Warn} : ¬ ∃ c r, Outcome.ret d same ws = .raised c r :=
  fun ⟨_, _, h⟩ => ret_ne_raised h

/-- what the occupation test of `fchk.prepare_dump` is meant to accept: `k` ones followed by zeros -/
def Aufbau (o : List Rat) : Prop :=
  ∃ k, k ≤ o.length ∧ o = List.replicate k 1 ++ List.replicate (o.length - k) 0

theorem pyIdx_le (n : Nat) (i : Int) : pyIdx n i ≤ n := by
  unfold pyIdx
  split
  · omega
  · exact Nat.min_le_right _ _

theorem pyIdx_nat (n k : Nat) (h : k ≤ n) : pyIdx n (k : Int) = k := by
  rw [pyIdx, if_neg (Int.not_lt.mpr (Int.natCast_nonneg k)), Int.toNat_natCast, Nat.min_eq_left h]

theorem all_beq_replicate (l : List Rat) (a : Rat) (h : l.all (· == a) = true) : l = List.replicate l.length a := by
  rw [List.eq_replicate_iff]
  refine ⟨rfl, fun b hb => ?_⟩
  have := List.all_eq_true.mp h b hb
  simpa using this

theorem sum_replicate_one (k : Nat) : Orb.sum (List.replicate k (1 : Rat)) = (k : Rat) := by
  induction k with
  | zero => simp [Orb.sum]
  | succ k ih => rw [List.replicate_succ, sum_cons, ih]; push_cast; ring

theorem sum_replicate_zero (k : Nat) : Orb.sum (List.replicate k (0 : Rat)) = 0 := by
  induction k with
  | zero => simp [Orb.sum]
  | succ k ih => rw [List.replicate_succ, sum_cons, ih]; simp

theorem roundHalfEven_int (k : Int) : roundHalfEven (k : Rat) = k := by
  unfold roundHalfEven
  have hf : ((k : Rat)).floor = k := Rat.floor_intCast k
  simp only [hf]
  simp

theorem roundHalfEven_nat (k : Nat) : roundHalfEven (k : Rat) = (k : Int) := by
  rw [← Int.cast_natCast, roundHalfEven_int]

theorem aufbauOk_replicate (k j : Nat) : aufbauOk (List.replicate k 1 ++ List.replicate j 0) = true := by
  unfold aufbauOk
  have hs : Orb.sum (List.replicate k (1 : Rat) ++ List.replicate j 0) = (k : Rat) := by
    rw [sum_append, sum_replicate_one, sum_replicate_zero]; simp
  simp only [hs, roundHalfEven_nat]
  have hl : (List.replicate k (1 : Rat) ++ List.replicate j 0).length = k + j := by simp
  rw [hl, pyIdx_nat (k + j) k (by omega)]
  simp

theorem aufbauOk_iff (o : List Rat) : aufbauOk o = true ↔ Aufbau o := by
  constructor
  · intro h
    unfold aufbauOk at h
    simp only [Bool.and_eq_true] at h
    generalize hk : pyIdx o.length (roundHalfEven (Orb.sum o)) = k at h
    have hkn : k ≤ o.length := hk ▸ pyIdx_le _ _
    have h1 := all_beq_replicate _ _ h.1
    have h2 := all_beq_replicate _ _ h.2
    rw [List.length_take, Nat.min_eq_left hkn] at h1
    rw [List.length_drop] at h2
    exact ⟨k, hkn, by rw [← h1, ← h2, List.take_append_drop]⟩
  · rintro ⟨k, _, ho⟩
    rw [ho]; exact aufbauOk_replicate k _

/-- the `occsa` / `occsb` getter returns occupations and they are in aufbau form -/
def SpinAufbau (x : Except Err (Option (List Rat))) : Prop := ∃ o, x = .ok (some o) ∧ Aufbau o

theorem spinCheck_pass_iff (x : Except Err (Option (List Rat))) : spinCheck x = .pass ↔ SpinAufbau x := by
  unfold SpinAufbau
  rcases x with e | (_ | o)
  · simp [spinCheck]
  · simp [spinCheck]
  · by_cases h : aufbauOk o = true
    · simp [spinCheck, h, (aufbauOk_iff o).mp h]
    · have : ¬ Aufbau o := fun ha => h ((aufbauOk_iff o).mpr ha)
      simp [spinCheck, h, this]

theorem fchkMo_none_iff (m : MO) :
    fchkMo m = none ↔ m.kind ≠ .generalized ∧ SpinAufbau (occsa m) ∧ SpinAufbau (occsb m) := by
  unfold fchkMo
  by_cases hg : m.kind = .generalized
  · simp [hg]
  · simp only [hg, if_false, ne_eq, not_false_eq_true, true_and]
    rw [← spinCheck_pass_iff, ← spinCheck_pass_iff]
    cases ha : spinCheck (occsa m) <;> simp
    cases hb : spinCheck (occsb m) <;> simp

/-- which class the orbital block raises: `PrepareDumpError` from its own `raise` statements, the getter's /
numpy's exception when the occupations cannot be summed -/
theorem fchkMo_some_cases (m : MO) (c : Cls) (r : Reason) (h : fchkMo m = some (c, r)) :
    (c = .prepareDump ∧ (r = .generalizedMo ∨ r = .alphaAufbau ∨ r = .betaAufbau)) ∨
    (∃ e, c = .err e ∧ (r = .alphaUnavailable ∨ r = .betaUnavailable)) := by
  unfold fchkMo at h
  by_cases hg : m.kind = .generalized
  · rw [if_pos hg] at h; cases h; exact Or.inl ⟨rfl, Or.inl rfl⟩
  · rw [if_neg hg] at h
    revert h
    cases spinCheck (occsa m) with
    | err e => intro h; cases h; exact Or.inr ⟨e, rfl, Or.inl rfl⟩
    | fail => intro h; cases h; exact Or.inl ⟨rfl, Or.inr (Or.inl rfl)⟩
    | pass =>
      cases spinCheck (occsb m) with
      | err e => intro h; cases h; exact Or.inr ⟨e, rfl, Or.inr rfl⟩
      | fail => intro h; cases h; exact Or.inl ⟨rfl, Or.inr (Or.inr rfl)⟩
      | pass => intro h; cases h

/-- the statements of `fchk.prepare_dump` after the orbital block -/
def fchkTail (allow : Bool) (d : Obj) : Outcome :=
  if (d.postScf && !lotNamesPostScf d.lot) = true then .raised .prepareDump .postScfLot
  else prepS true allow d true []

theorem fchk_cases (allow : Bool) (d : Obj) :
    (∃ m p, d.mo = some m ∧ fchkMo m = some p ∧ fchk allow d = .raised p.1 p.2) ∨
    ((∀ m, d.mo = some m → fchkMo m = none) ∧ fchk allow d = fchkTail allow d) := by
  unfold fchk fchkTail
  cases d.mo with
  | none => exact Or.inr ⟨fun _ e => absurd e.symm (Option.some_ne_none _), rfl⟩
  | some m =>
    dsimp only
    cases hf : fchkMo m with
    | none => exact Or.inr ⟨fun m' e => Option.some.inj e ▸ hf, rfl⟩
    | some p => exact Or.inl ⟨m, p, rfl, hf, rfl⟩

theorem fchk_eq_prepS (allow : Bool) (d : Obj) (hmo : ∀ m, d.mo = some m → fchkMo m = none)
    (hp : (d.postScf && !lotNamesPostScf d.lot) = false) : fchk allow d = prepS true allow d true [] := by
  rcases fchk_cases allow d with ⟨m, p, hm, hf, -⟩ | ⟨-, h⟩
  · rw [hmo m hm] at hf; cases hf
  · rw [h, fchkTail, hp]; rfl

theorem fchkMo_cls {m : MO} (hi : Inv m) (ho : m.kind ≠ .generalized → m.occs ≠ none) {c : Cls} {r : Reason}
    (h : fchkMo m = some (c, r)) : c = .prepareDump := by
  unfold fchkMo at h
  by_cases hg : m.kind = .generalized
  · rw [if_pos hg] at h; cases h; rfl
  · obtain ⟨o, ho'⟩ := Option.ne_none_iff_exists'.mp (ho hg)
    obtain ⟨a, b, ha, hb, -⟩ := spin_facts hi hg ho'
    rw [if_neg hg, ha, hb, spinCheck, spinCheck] at h
    revert h
    cases aufbauOk a <;> cases aufbauOk b <;> intro h <;> cases h <;> rfl

/-- `prepare_segmented` finds a shell to split -/
def needS (keepSp : Bool) (b : Basis) : Bool := !(b.all (isKept keepSp))

theorem needS_iff (k : Bool) (b : Basis) : needS k b = true ↔ ∃ sh ∈ b, ¬ isKept k sh = true := by
  simp only [needS, Bool.not_eq_true', List.all_eq_false]

theorem prepS_eq (keepSp allow : Bool) (d : Obj) (same : Bool) (ws : List Warn) :
    prepS keepSp allow d same ws =
      match d.obasis with
      | none => .raised (.err .valueError) .sNoObasis
      | some b =>
        if needS keepSp b = false then .ret d same ws
        else if allow = false then .raised .prepareDump .sContraction
        else .ret { d with obasis := some (segment keepSp b) } false (ws ++ [.segmented]) := by
  unfold prepS prepareSegmented needS
  cases d.obasis with
  | none => rfl
  | some b =>
    by_cases hk : b.all (isKept keepSp) = true
    · simp [hk]
    · cases allow <;> simp [hk]

theorem prepS_rejects_iff (k allow : Bool) (d : Obj) (same : Bool) (ws : List Warn) :
    (∃ c r, prepS k allow d same ws = .raised c r) ↔
      d.obasis = none ∨ (allow = false ∧ ∃ b, d.obasis = some b ∧ needS k b = true) := by
  rw [prepS_eq]
  cases d.obasis with
  | none => exact iff_of_true ⟨_, _, rfl⟩ (Or.inl rfl)
  | some b =>
    dsimp only
    cases hs : needS k b with
    | false =>
      refine iff_of_false ret_not_rejection fun h => h.elim nofun fun ⟨_, b', hb', h'⟩ => ?_
      cases hb'
      rw [hs] at h'
      cases h'
    | true =>
      cases allow with
      | false => exact iff_of_true ⟨_, _, rfl⟩ (Or.inr ⟨rfl, b, rfl, hs⟩)
      | true => exact iff_of_false ret_not_rejection fun h => h.elim nofun (Bool.noConfusion ·.1)

/-- orbitals `prepare_unrestricted_aminusb` converts (kind restricted by the class invariant) -/
def needU (m : MO) : Bool := m.aminusb.isSome && m.kind != .unrestricted

theorem needU_iff_of_inv {m : MO} (hi : Inv m) : needU m = true ↔ m.aminusb ≠ none := by
  unfold needU
  cases hd : m.aminusb with
  | none => simp
  | some x =>
    have := hi.2.2 (by simp [hd])
    simp [this]

theorem prepU_eq (allow : Bool) (d : Obj) (m : MO) (hm : d.mo = some m) (hg : m.kind ≠ .generalized)
    (same : Bool) (ws : List Warn) :
    prepU allow d same ws =
      if needU m = false then .ret d same ws
      else if allow = false then .raised .prepareDump .uAminusb
      else
        match toUnrestricted m with
        | .ok p => .ret { d with mo := some p.1 } false (ws ++ [.unrestricted])
        | .error e => .raised (.err e) .uConvert := by
  unfold prepU prepareUnrestricted needU
  rw [hm]
  dsimp only
  rw [if_neg hg]
  by_cases hu : m.kind = .unrestricted
  · rw [if_pos hu, hu]; cases m.aminusb <;> rfl
  · rw [if_neg hu, bne_iff_ne.mpr hu]
    cases m.aminusb with
    | none => rfl
    | some x =>
      cases allow with
      | false => rfl
      | true => cases toUnrestricted m <;> rfl

/-- `data = prepare_unrestricted_aminusb(…)` followed by `return prepare_segmented(data, False, …)` -/
def unrestrictThenSegment (allow : Bool) (d : Obj) : Outcome :=
  match prepU allow d true [] with
  | .ret d1 same ws => prepS false allow d1 same ws
  | r => r

/-- `Skel.moBasis name c g` as a function: the one body behind `molden`, `molekel`, `wfn` and `wfx` with its two
optional guards as flags (`c`: the Cartesian-only loop, `g`: the electron-count guard).  The model's transcriptions
are its instances by `rfl`: `moBasis c = moBody c false` (`moBasis_eq_moBody`), `molekel = moBody false true`
(inside `prepareDump_mo`). -/
def moBody (c g allow : Bool) (d : Obj) : Outcome :=
  match d.mo with
  | none => .raised .prepareDump .noMo
  | some m =>
    match d.obasis with
    | none => .raised .prepareDump .noObasis
    | some b =>
      if m.kind = .generalized then .raised .prepareDump .generalizedMo
      else if g && fractionalNelec m then .raised .prepareDump .fractionalNelec
      else if c && hasNonCart b then .raised .prepareDump .pureFunctions
      else unrestrictThenSegment allow d

theorem moBasis_eq_moBody (c allow : Bool) (d : Obj) : moBasis c allow d = moBody c false allow d := rfl

/-- the formats with the Molden-like body -/
def IsMoBasis (f : Fmt) : Prop := f = .molden ∨ f = .molekel ∨ f = .wfn ∨ f = .wfx

/-- the body has the loop `for shell in data.obasis.shells: if any(kind != "c" …): raise` -/
def cartOnly : Fmt → Bool
  | .wfn => true | .wfx => true | _ => false

theorem prepareDump_mo (s : Bool) (f : Fmt) (hf : IsMoBasis f) (allow : Bool) (d : Obj) :
    prepareDump s f allow d = moBody (cartOnly f) (f == .molekel) allow d := by
  rcases hf with rfl | rfl | rfl | rfl <;> rfl

/-- the guards of the Molden-like body that no conversion can remove -/
def moHard (c g : Bool) (m : MO) (b : Basis) : Bool :=
  m.kind == .generalized || (g && fractionalNelec m) || (c && hasNonCart b)

/-- `attrs.evolve(data, mo=…)` and / or `attrs.evolve(data, obasis=…)` of the two helpers, applied where needed -/
def moConverted (d : Obj) (m : MO) (b : Basis) (m' : MO) : Obj :=
  { d with mo := if needU m then some m' else d.mo,
           obasis := if needS false b then some (segment false b) else d.obasis }

/-- the warnings of the allowed conversions, in the order they are issued -/
def moWarns (m : MO) (b : Basis) : List Warn :=
  (if needU m then [.unrestricted] else []) ++ (if needS false b then [.segmented] else [])

theorem moBody_table (c g allow : Bool) (d : Obj) (m : MO) (b : Basis) (hm : d.mo = some m)
    (hb : d.obasis = some b) (hi : Inv m) :
    (moHard c g m b = true ∧ ∃ r, moBody c g allow d = .raised .prepareDump r) ∨
    (moHard c g m b = false ∧ (needU m || needS false b) = false ∧ moBody c g allow d = .ret d true []) ∨
    (moHard c g m b = false ∧ (needU m || needS false b) = true ∧ allow = false ∧
      ∃ r, moBody c g allow d = .raised .prepareDump r) ∨
    (moHard c g m b = false ∧ (needU m || needS false b) = true ∧ allow = true ∧
      ∃ m', (needU m = true → toUnrestricted m = .ok (m', false)) ∧
        moBody c g allow d = .ret (moConverted d m b m') false (moWarns m b)) := by
  unfold moBody moHard
  simp only [hm, hb]
  by_cases hg : m.kind = .generalized
  · exact Or.inl ⟨by rw [beq_iff_eq.mpr hg]; rfl, _, if_pos hg⟩
  rw [if_neg hg]
  by_cases hf : (g && fractionalNelec m) = true
  · exact Or.inl ⟨by rw [hf, Bool.or_true]; rfl, _, if_pos hf⟩
  rw [if_neg hf]
  by_cases hp : (c && hasNonCart b) = true
  · exact Or.inl ⟨by rw [hp, Bool.or_true], _, if_pos hp⟩
  rw [if_neg hp, beq_eq_false_iff_ne.mpr hg, Bool.eq_false_iff.mpr hf, Bool.eq_false_iff.mpr hp,
    unrestrictThenSegment,
    prepU_eq allow d m hm hg]
  unfold moConverted moWarns
  refine Or.inr ?_
  cases hu : needU m with
  | false =>
    simp only [if_true, prepS_eq, hb, Bool.false_or, Bool.false_eq_true, if_false, List.nil_append]
    cases needS false b with
    | false => exact Or.inl ⟨trivial, rfl, rfl⟩
    | true =>
      cases allow with
      | false => exact Or.inr (Or.inl ⟨trivial, rfl, rfl, _, rfl⟩)
      | true => exact Or.inr (Or.inr ⟨trivial, rfl, rfl, m, nofun, rfl⟩)
  | true =>
    refine Or.inr ?_
    cases allow with
    | false => exact Or.inl ⟨rfl, rfl, rfl, _, rfl⟩
    | true =>
      obtain ⟨m', h1, -⟩ := toUnrestricted_restricted hi (hi.2.2 ((needU_iff_of_inv hi).mp hu))
      refine Or.inr ⟨rfl, rfl, rfl, m', fun _ => h1, ?_⟩
      simp only [Bool.true_eq_false, if_false, h1, prepS_eq, hb, if_true, List.nil_append]
      cases needS false b <;> rfl

theorem fns_segment (k : Bool) (b : Basis) : fns (segment k b) = fns b := by
  simp [fns, contractions_segment]

theorem prepareDump_fchk (s a : Bool) (d : Obj) : prepareDump s .fchk a d = fchk a d := rfl

theorem prepareDump_qcschema (s a : Bool) (d : Obj) : prepareDump s .qcschema a d = qcschema s a d := rfl

/-- a returned object is the very same object iff no warning was issued; a different one needs `allow_changes`; there
are at most two warnings -/
def RetOk (allow : Bool) (d : Obj) : Outcome → Prop
  | .ret d' same ws =>
    (same = true ↔ ws = []) ∧ (same = true → d' = d) ∧ (same = false → allow = true) ∧ ws.length ≤ 2
  | .raised _ _ => True

theorem retOk_same (allow : Bool) (d : Obj) : RetOk allow d (.ret d true []) :=
  ⟨⟨fun _ => rfl, fun _ => rfl⟩, fun _ => rfl, nofun, Nat.zero_le 2⟩

theorem retOk_converted (d d' : Obj) {ws : List Warn} (h0 : ws ≠ []) (h2 : ws.length ≤ 2) :
    RetOk true d (.ret d' false ws) :=
  ⟨⟨nofun, fun h => absurd h h0⟩, nofun, fun _ => rfl, h2⟩

theorem prepS_retOk (k allow : Bool) (d : Obj) : RetOk allow d (prepS k allow d true []) := by
  rw [prepS_eq]
  cases d.obasis with
  | none => trivial
  | some b =>
    dsimp only
    cases needS k b with
    | false => exact retOk_same allow d
    | true =>
      cases allow with
      | false => trivial
      | true => exact retOk_converted d _ (List.cons_ne_nil _ _) (by decide)

theorem fchk_retOk (allow : Bool) (d : Obj) : RetOk allow d (fchk allow d) := by
  unfold fchk
  split
  · trivial
  · split
    · trivial
    · exact prepS_retOk true allow d

theorem qcschema_retOk (s allow : Bool) (d : Obj) : RetOk allow d (qcschema s allow d) := by
  unfold qcschema
  split
  · trivial
  · split
    · trivial
    · split
      · trivial
      · exact retOk_same allow d

theorem moWarns_spec (m : MO) (b : Basis) :
    (moWarns m b = [] ↔ (needU m || needS false b) = false) ∧ (moWarns m b).length ≤ 2 := by
  unfold moWarns
  cases needU m <;> cases needS false b <;> decide

theorem moBody_retOk (c g allow : Bool) (d : Obj) (hv : ∀ m, d.mo = some m → Inv m) :
    RetOk allow d (moBody c g allow d) := by
  cases hm : d.mo with
  | none => rw [moBody, hm]; trivial
  | some m =>
    cases hb : d.obasis with
    | none => rw [moBody, hm, hb]; trivial
    | some b =>
      rcases moBody_table c g allow d m b hm hb (hv m hm) with
        ⟨-, r, h⟩ | ⟨-, -, h⟩ | ⟨-, -, -, r, h⟩ | ⟨-, hn, ha, m', -, h⟩ <;> rw [h]
      · trivial
      · exact retOk_same allow d
      · trivial
      · rw [ha]
        refine retOk_converted d _ (fun h0 => ?_) (moWarns_spec m b).2
        rw [(moWarns_spec m b).1.mp h0] at hn
        cases hn

theorem prepareDump_retOk (s : Bool) (f : Fmt) (allow : Bool) (d : Obj) (hv : ∀ m, d.mo = some m → Inv m) :
    RetOk allow d (prepareDump s f allow d) := by
  cases f with
  | fchk => exact fchk_retOk allow d
  | qcschema => exact qcschema_retOk s allow d
  | molden => exact moBody_retOk false false allow d hv
  | molekel => exact moBody_retOk false true allow d hv
  | wfn => exact moBody_retOk true false allow d hv
  | wfx => exact moBody_retOk true false allow d hv

/-- an integer electron count is never "fractional" -/
theorem fractionalNelec_int (m : MO) (o : List Rat) (ho : m.occs = some o) (k : Int) (hk : Orb.sum o = (k : Rat)) :
    fractionalNelec m = false := by
  unfold fractionalNelec nelec
  simp only [ho, Option.map_some, hk, roundHalfEven_int]
  simp [absR, tolNelec]
  norm_num

/-- the class of the model's exception as the API flow sees it (`Other` = any other `Exception`) -/
def clsExc : Cls → Flow.Exc
  | .prepareDump => .prepareDump
  | .err _ => .other

theorem clsExc_isException (c : Cls) : (clsExc c).isException = true := by cases c <;> rfl

/-- the behaviour of the callee `prepare_dump` in the flow model of `api.py` -/
def prepBeh : Outcome → Option Flow.Exc
  | .raised c _ => some (clsExc c)
  | .ret _ _ _ => none

theorem funnelDump_ne_prepareDump (e : Flow.Exc) : Flow.funnelDump e ≠ .prepareDump := by
  cases e <;> decide

/-- The kernel compares `String.ofList` of a concatenation of character lists with a literal by expanding the
literal; `++` on literals it evaluates byte by byte.  `rw` with this turns the helper calls of `Skel.moBasis`,
which splice the format name into the statement text, into the cheap form. -/
theorem Skel.ofList_append3 (a b c : List Char) :
    String.ofList a ++ String.ofList b ++ String.ofList c = String.ofList (a ++ b ++ c) := by
  rw [String.ofList_append, String.ofList_append]

end Iodata.Prep
