/- Lemmas for C19 (`Iodata/Props/C19.lean`): field lookup, splitting at newlines, the comprehension over the callback's
results by outcome (some call raises / none does), characters of printed numbers. -/
import Iodata.Model.Inputs
import Iodata.Lemmas.Select
import Mathlib.Data.Rat.Floor
import Mathlib.Tactic.Linarith

namespace Iodata.Inputs
open Iodata.Select (Str)

lemma lookup_append (a b : Fields) (k : Str) :
    lookup (a ++ b) k = (lookup a k).orElse (fun _ => lookup b k) := by
  unfold lookup
  rw [List.find?_append]
  cases h : a.find? (fun e => e.1 == k) <;> simp

lemma lookup_cons_self (k : Str) (v : Val) (fs : Fields) : lookup ((k, v) :: fs) k = some v := by
  simp [lookup]

lemma lookup_cons_ne (k k' : Str) (v : Val) (fs : Fields) (h : k' ≠ k) :
    lookup ((k', v) :: fs) k = lookup fs k := by
  have : (k' == k) = false := by simpa using h
  simp [lookup, this]

lemma allSome_cons_some {α : Type} (a : α) (xs : List (Option α)) :
    allSome (some a :: xs) = (allSome xs).map (a :: ·) := by
  simp only [allSome]; cases allSome xs <;> rfl

lemma allSome_eq_some {α : Type} (l : List (Option α)) (r : List α) :
    allSome l = some r ↔ l = r.map some := by
  induction l generalizing r with
  | nil => cases r <;> simp [allSome]
  | cons x xs ih =>
    cases x with
    | none => cases r <;> simp [allSome]
    | some a =>
      rw [allSome_cons_some, Option.map_eq_some_iff]
      simp only [ih]
      cases r <;> simp [and_comm]

lemma allSome_eq_none {α : Type} (l : List (Option α)) : allSome l = none ↔ none ∈ l := by
  induction l with
  | nil => simp [allSome]
  | cons x xs ih =>
    cases x with
    | none => simp [allSome]
    | some a => simp [allSome_cons_some, ih]

/-- split at every `\n` (what a reader of the file does) -/
def splitNl : Str → List Str
  | [] => [[]]
  | c :: s =>
    match splitNl s with
    | [] => [[]]   -- unreachable: `splitNl` never returns `[]`
    | l :: ls => if c = '\n' then [] :: l :: ls else (c :: l) :: ls

lemma splitNl_noNl (l : Str) (hl : '\n' ∉ l) : splitNl l = [l] := by
  induction l with
  | nil => rfl
  | cons c l ih =>
    have hc : c ≠ '\n' := fun h => hl (by simp [h])
    have hl' : '\n' ∉ l := fun h => hl (by simp [h])
    simp only [splitNl, ih hl', hc, if_false]

lemma splitNl_ne_nil (s : Str) : splitNl s ≠ [] := by
  cases s with
  | nil => simp [splitNl]
  | cons c s =>
    simp only [splitNl]
    cases splitNl s with
    | nil => simp
    | cons l ls => by_cases h : c = '\n' <;> simp [h]

lemma splitNl_append_nl (l s : Str) : splitNl (l ++ '\n' :: s) = splitNl l ++ splitNl s := by
  induction l with
  | nil =>
    obtain ⟨a, b, h⟩ := List.exists_cons_of_ne_nil (splitNl_ne_nil s)
    simp [splitNl, h]
  | cons c l ih =>
    obtain ⟨a, b, h⟩ := List.exists_cons_of_ne_nil (splitNl_ne_nil l)
    by_cases hc : c = '\n' <;> simp [splitNl, ih, h, hc]

lemma splitNl_joinNl_flatMap (ls : List Str) (hne : ls ≠ []) :
    splitNl (joinNl ls) = ls.flatMap splitNl := by
  induction ls with
  | nil => exact absurd rfl hne
  | cons l ls ih =>
    cases ls with
    | nil => simp [joinNl]
    | cons l2 ls' =>
      simp only [joinNl, splitNl_append_nl, List.flatMap_cons]
      rw [ih (by simp)]
      simp [List.flatMap_cons]

lemma splitNl_joinNl (ls : List Str) (hne : ls ≠ []) (h : ∀ l ∈ ls, '\n' ∉ l) :
    splitNl (joinNl ls) = ls := by
  rw [splitNl_joinNl_flatMap ls hne]
  clear hne
  induction ls with
  | nil => rfl
  | cons l ls ih =>
    rw [List.flatMap_cons, splitNl_noNl l (h l (by simp)), ih fun x hx => h x (by simp [hx])]
    rfl

lemma length_splitNl (s : Str) : (splitNl s).length = s.count '\n' + 1 := by
  induction s with
  | nil => rfl
  | cons c s ih =>
    obtain ⟨a, b, h⟩ := List.exists_cons_of_ne_nil (splitNl_ne_nil s)
    by_cases hc : c = '\n' <;> simp [splitNl, h, hc] at ih ⊢ <;> omega

lemma length_flatMap_splitNl (ls : List Str) :
    (ls.flatMap splitNl).length = ls.length + (ls.map (List.count '\n')).sum := by
  induction ls with
  | nil => simp
  | cons l ls ih =>
    simp only [List.flatMap_cons, List.length_append, ih, length_splitNl, List.length_cons, List.map_cons,
      List.sum_cons]
    omega

lemma sum_count_nl_eq_zero (ls : List Str) :
    (ls.map (List.count '\n')).sum = 0 ↔ ∀ l ∈ ls, '\n' ∉ l := by
  induction ls with
  | nil => simp
  | cons l ls ih =>
    simp only [List.map_cons, List.sum_cons, Nat.add_eq_zero_iff, ih, List.mem_cons, forall_eq_or_imp,
      List.count_eq_zero]

lemma map_eq_map_iff_getElem {α β γ : Type} (f : α → γ) (c : β → γ) (l : List α) (r : List β) :
    l.map f = r.map c ↔
      r.length = l.length ∧ ∀ i (h : i < l.length) (h' : i < r.length), f l[i] = c r[i] := by
  constructor
  · intro h
    refine ⟨by simpa using (congrArg List.length h).symm, fun i hi hi' => ?_⟩
    simpa [List.getElem?_eq_getElem hi, List.getElem?_eq_getElem hi'] using congrArg (·[i]?) h
  · rintro ⟨hl, h⟩
    exact List.ext_getElem (by simp [hl]) fun i h1 h2 => by
      simpa using h i (by simpa using h1) (by simpa using h2)

lemma range_map_eq_map_iff {β γ : Type} (g : Nat → γ) (c : β → γ) (n : Nat) (r : List β) :
    (List.range n).map g = r.map c ↔ r.length = n ∧ ∀ i (h : i < r.length), g i = c r[i] := by
  simp only [map_eq_map_iff_getElem, List.length_range, List.getElem_range]
  exact and_congr_right fun hl => ⟨fun h i hi => h i (hl ▸ hi) hi, fun h i _ hi => h i hi⟩

lemma range_split {k n : Nat} (h : k < n) : ∃ post, List.range n = List.range k ++ k :: post := by
  obtain ⟨d, rfl⟩ : ∃ d, n = k + (d + 1) := ⟨n - k - 1, by omega⟩
  exact ⟨_, by rw [List.range_add, List.range_succ_eq_map]; rfl⟩

lemma collect_eq_ok_lines (rs : List LineRes) (lines : List Str) :
    collect rs = .ok (lines.map some) ↔ rs = lines.map .line := by
  induction rs generalizing lines with
  | nil => cases lines <;> simp [collect]
  | cons r rs ih =>
    cases r <;> cases lines <;> cases h : collect rs <;> simp [collect, h, Except.map, ← ih]

lemma geomOf_eq_ok (rs : List LineRes) (g : Str) :
    geomOf rs = .ok g ↔ ∃ lines, rs = lines.map .line ∧ g = joinNl lines := by
  unfold geomOf
  constructor
  · intro h
    split at h
    · cases h
    · next items hc =>
      split at h
      · next lines ha =>
        rw [(allSome_eq_some _ _).mp ha, collect_eq_ok_lines] at hc
        exact ⟨lines, hc, by cases h; rfl⟩
      · cases h
  · rintro ⟨lines, rfl, rfl⟩
    rw [(collect_eq_ok_lines _ lines).mpr rfl]
    simp only [(allSome_eq_some _ lines).mpr rfl]

def LineRes.isRaise : LineRes → Bool
  | .raises _ => true
  | _ => false

/-- what the comprehension stores for a call that returned -/
def LineRes.item : LineRes → Option Str
  | .line s => some s
  | _ => none

lemma comprehension_raise (g : Nat → LineRes) (pre : List Nat) (i : Nat) (post : List Nat) (r : Raised)
    (hpre : ∀ j ∈ pre, (g j).isRaise = false) (hi : g i = .raises r) :
    collect ((pre ++ i :: post).map g) = .error r ∧ callsMade g (pre ++ i :: post) = pre ++ [i] := by
  induction pre with
  | nil => simp [collect, callsMade, hi]
  | cons j pre ih =>
    have hj := hpre j (by simp)
    obtain ⟨h1, h2⟩ := ih fun k hk => hpre k (by simp [hk])
    rw [List.cons_append, List.map_cons, callsMade]
    cases hg : g j with
    | raises e => rw [hg] at hj; cases hj
    | _ => simp only [collect, h1, h2, Except.map, List.cons_append, and_self]

lemma comprehension_noraise (g : Nat → LineRes) (is : List Nat) (h : ∀ i ∈ is, (g i).isRaise = false) :
    collect (is.map g) = .ok ((is.map g).map LineRes.item) ∧ callsMade g is = is := by
  induction is with
  | nil => exact ⟨rfl, rfl⟩
  | cons j is ih =>
    have hj := h j (by simp)
    obtain ⟨h1, h2⟩ := ih fun k hk => h k (by simp [hk])
    rw [List.map_cons, callsMade]
    cases hg : g j with
    | raises e => rw [hg] at hj; cases hj
    | _ => simp only [collect, h1, h2, Except.map, List.map_cons, LineRes.item, and_self]

lemma callsMade_prefix (f : Nat → LineRes) (is : List Nat) : ∃ k, k ≤ is.length ∧ callsMade f is = is.take k := by
  induction is with
  | nil => exact ⟨0, by simp, rfl⟩
  | cons x xs ih =>
    obtain ⟨k, hk, he⟩ := ih
    cases hx : f x with
    | raises e => exact ⟨1, by simp, by simp [callsMade, hx]⟩
    | _ => exact ⟨k + 1, by simpa using hk, by simp [callsMade, hx, he]⟩

lemma natDigits_isDigit (n : Nat) : ∀ c ∈ natDigits n, c.isDigit = true := by
  intro c hc
  unfold natDigits at hc
  rw [Nat.toString_eq_ofList_toDigits] at hc
  simp only [String.toList_ofList] at hc
  exact Nat.isDigit_of_mem_toDigits (by norm_num) (by norm_num) hc

lemma natDigits_noNl (n : Nat) : '\n' ∉ natDigits n :=
  fun h => absurd (natDigits_isDigit n _ h) (by decide)

lemma fmtFix6_noNl (k : Int) : '\n' ∉ fmtFix6 k := by
  have d := natDigits_noNl
  simp only [fmtFix6, padLeft, fmtFix6.padLeftZero]
  split <;>
  simp only [List.mem_append, List.mem_cons, List.mem_replicate, d, Char.reduceEq, or_false, and_false,
    not_false_eq_true]

lemma atomLine_noNl (t : List (Nat × Str)) (ht : ∀ e ∈ t, '\n' ∉ e.2) (a : Atom) (l : Str)
    (h : atomLine t a = some l) : '\n' ∉ l := by
  unfold atomLine at h
  split at h
  · cases h
  · next e hf =>
    cases h
    simp [padRight, ht e (List.mem_of_find?_eq_some hf), fmtFix6_noNl]

/-- No number of the list is a set bit of `seen` or occurs twice.  One pass with a bit set; deciding `List.Nodup`
directly compares all pairs, which is slow to check for a table the size of the element table. -/
def distinctFrom (seen : Nat) : List Nat → Bool
  | [] => true
  | n :: ns => !seen.testBit n && distinctFrom (seen ||| 2 ^ n) ns

lemma distinctFrom_sound {seen : Nat} {ns : List Nat} (h : distinctFrom seen ns = true) :
    ns.Nodup ∧ ∀ n ∈ ns, seen.testBit n = false := by
  induction ns generalizing seen with
  | nil => exact ⟨List.nodup_nil, nofun⟩
  | cons n ns ih =>
    simp only [distinctFrom, Bool.and_eq_true, Bool.not_eq_true'] at h
    obtain ⟨hnd, hmem⟩ := ih h.2
    simp only [Nat.testBit_or, Bool.or_eq_false_iff] at hmem
    refine ⟨List.nodup_cons.mpr ⟨fun hn => ?_, hnd⟩, ?_⟩
    · simpa using (hmem n hn).2
    · intro k hk
      rcases List.mem_cons.mp hk with rfl | hk
      · exact h.1
      · exact (hmem k hk).1

end Iodata.Inputs
