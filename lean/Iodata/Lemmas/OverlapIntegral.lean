/- Over ℝ: the Gaussian moments `∫ xᵐ exp(-p x²)` are `√(π/p) · mom (2p) m`, hence `∫ P(x) exp(-p x²)` is
`√(π/p) · gaussL (2p) P` for every polynomial `P`. -/
import Iodata.Lemmas.Overlap
import Mathlib.Analysis.SpecialFunctions.Gaussian.GaussianIntegral
import Mathlib.MeasureTheory.Integral.Gamma
import Mathlib.MeasureTheory.Measure.Lebesgue.Integral
import Mathlib.MeasureTheory.Group.Integral

namespace Iodata.Overlap
open Real MeasureTheory Set
open scoped Nat

theorem fact2_eq (n : ℕ) : fact2 n = n‼ := by
  induction n using fact2.induct with
  | case1 => rfl
  | case2 => rfl
  | case3 n ih => rw [fact2, Nat.doubleFactorial, ih]

theorem facts_two_mul (k : ℕ) : facts (2 * k) = (2 * k - 1)‼ := by
  cases k with
  | zero => rfl
  | succ k =>
    have : 2 * (k + 1) = (2 * k + 1) + 1 := by ring
    rw [this]; simp only [facts, fact2_eq]; rfl

theorem integrable_pow_gauss (p : ℝ) (hp : 0 < p) (m : ℕ) :
    Integrable fun x : ℝ => x ^ m * exp (-p * x ^ 2) := by
  have h := integrable_rpow_mul_exp_neg_mul_sq hp (s := (m : ℝ)) (by
    have : (0:ℝ) ≤ m := Nat.cast_nonneg m
    linarith)
  simpa [rpow_natCast] using h

theorem moment_even (p : ℝ) (hp : 0 < p) (k : ℕ) :
    ∫ x : ℝ, x ^ (2 * k) * exp (-p * x ^ 2) = √(π / p) * (((facts (2 * k) : ℕ) : ℝ) / (2 * p) ^ k) := by
  have h1 : (fun x : ℝ => x ^ (2 * k) * exp (-p * x ^ 2))
      = fun x => (fun y : ℝ => y ^ (2 * k) * exp (-p * y ^ 2)) |x| := by
    funext x
    simp only [pow_mul, sq_abs]
  rw [h1, integral_comp_abs (f := fun y : ℝ => y ^ (2 * k) * exp (-p * y ^ 2))]
  have h2 : ∫ x in Ioi (0:ℝ), x ^ (2 * k) * exp (-p * x ^ 2)
      = ∫ x in Ioi (0:ℝ), x ^ ((2 * k : ℕ) : ℝ) * exp (-p * x ^ (2:ℝ)) := by
    refine setIntegral_congr_fun measurableSet_Ioi (fun x _ => ?_)
    simp only [rpow_natCast, rpow_two]
  rw [h2, integral_rpow_mul_exp_neg_mul_rpow (by norm_num) (by
    have : (0:ℝ) ≤ ((2 * k : ℕ) : ℝ) := Nat.cast_nonneg _
    linarith) hp]
  have h3 : (((2 * k : ℕ) : ℝ) + 1) / 2 = (k : ℝ) + 1 / 2 := by push_cast; ring
  have h4 : -(((2 * k : ℕ) : ℝ) + 1) / 2 = -((k : ℝ) + 1 / 2) := by push_cast; ring
  rw [h3, h4, Real.Gamma_nat_add_half, facts_two_mul]
  rw [rpow_neg hp.le, rpow_add hp, rpow_natCast, ← sqrt_eq_rpow, sqrt_div pi_pos.le, mul_pow]
  have hs : √p ≠ 0 := (sqrt_pos.mpr hp).ne'
  field_simp

theorem moment_odd (p : ℝ) (k : ℕ) :
    ∫ x : ℝ, x ^ (2 * k + 1) * exp (-p * x ^ 2) = 0 := by
  have h := integral_neg_eq_self (fun x : ℝ => x ^ (2 * k + 1) * exp (-p * x ^ 2)) volume
  have h2 : (fun x : ℝ => (-x) ^ (2 * k + 1) * exp (-p * (-x) ^ 2)) = fun x => -(x ^ (2 * k + 1) * exp (-p * x ^ 2)) := by
    funext x
    rw [Odd.neg_pow ⟨k, rfl⟩, neg_sq]; ring
  simp only [h2, integral_neg] at h
  linarith

open Polynomial

theorem moment_all (p : ℝ) (hp : 0 < p) (m : ℕ) :
    ∫ x : ℝ, x ^ m * exp (-p * x ^ 2) = √(π / p) * mom (2 * p) m := by
  rcases Nat.even_or_odd' m with ⟨k, rfl | rfl⟩
  · rw [moment_even p hp k]
    simp only [mom, Nat.mul_mod_right, Nat.mul_div_cancel_left k Nat.two_pos, if_true]
  · rw [moment_odd]
    simp only [mom, Nat.mul_add_mod, Nat.one_mod, one_ne_zero, if_false, mul_zero]

theorem integral_poly_gauss (p : ℝ) (hp : 0 < p) (P : ℝ[X]) :
    Integrable (fun x : ℝ => P.eval x * exp (-p * x ^ 2)) ∧
    ∫ x : ℝ, P.eval x * exp (-p * x ^ 2) = √(π / p) * gaussL (2 * p) P := by
  induction P using Polynomial.induction_on' with
  | add P Q hP hQ =>
    have e : (fun x : ℝ => (P + Q).eval x * exp (-p * x ^ 2))
        = fun x => P.eval x * exp (-p * x ^ 2) + Q.eval x * exp (-p * x ^ 2) := by
      funext x; rw [eval_add, add_mul]
    rw [e]
    refine ⟨hP.1.add hQ.1, ?_⟩
    rw [integral_add hP.1 hQ.1, hP.2, hQ.2, map_add, mul_add]
  | monomial n a =>
    have e : (fun x : ℝ => (monomial n a).eval x * exp (-p * x ^ 2))
        = fun x => a * (x ^ n * exp (-p * x ^ 2)) := by
      funext x; rw [eval_monomial]; ring
    rw [e]
    refine ⟨(integrable_pow_gauss p hp n).const_mul a, ?_⟩
    rw [integral_const_mul, moment_all p hp n, ← C_mul_X_pow_eq_monomial, gaussL_C_mul_X_pow]
    ring

end Iodata.Overlap
