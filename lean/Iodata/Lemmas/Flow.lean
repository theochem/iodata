/-
Reference terms `Ref.*`: a hand-written transcription of api.py.  Every theorem about the API flow (here and in
Props/C07, C08, C08Prepare) is about these terms; the only link to the terms generated from the source,
`Gen/ApiFlow.lean`, are the theorems `flow_matches_* : Gen.ApiFlow.x = Ref.x := rfl` of the Props files.
Then: the equations of `exec` per construct, the pre-flight steps (`exec_preSteps`, `exec_preflight`), the writes
(`doWrites_eq`), the write phase shared by the three dump functions (`exec_openTry`), and `dump_one`
(`dumpOneOut`, `dump_one_master`).
-/
import Iodata.Model.Flow

namespace Iodata.Flow.Ref
open Iodata.Flow

/-- api.py `_check_required` -/
def checkRequired : Stmt :=
  .forEach .required "dump_func.required -> attr_name"
    (.ifNone "getattr(data, attr_name)" (.raise_ .prepareDump ["filename"]))

def preflightHandlers : Handlers :=
  .cons (.cls [.prepareDump]) .reraise
    (.cons .anyException (.raise_ .prepareDump ["filename", "from exc"]) .nil)

/-- the pre-flight block of `dump_one` / `dump_many` -/
def preflight (obj fn tgt : String) : Stmt :=
  .try_
    (.seq (.inl "_check_required" ["filename", obj, fn] checkRequired)
      (.ifHasattr "format_module" "prepare_dump"
        (.call .prepare [obj, "allow_changes", "filename"] tgt) .skip))
    preflightHandlers

/-- api.py `dump_one` -/
def dumpOne : Stmt :=
  .seq (.call (.select "dump_one") ["filename", "'dump_one'", "fmt"] "format_module")
  (.seq (preflight "data" "format_module.dump_one" "data")
  (.seq (.withOpen .w "filename" "f"
      (.try_ (.call (.writer "dump_one") ["f", "data", "**kwargs"] "")
        (.cons (.cls [.dump]) .reraise
          (.cons .anyException (.raise_ .dump ["filename", "from exc"]) .nil))))
    (.ret "data")))

/-- the body of the local generator `checking_iterator` of `dump_many` -/
def laterBody : Stmt :=
  .seq (.inl "_check_required" ["filename", "other", "format_module.dump_many"] checkRequired)
    (.seq (.ifHasattr "format_module" "prepare_dump"
        (.call .prepare ["other", "allow_changes", "filename"] "") .skip)
      (.yield_ .writer
        "format_module.prepare_dump(other, allow_changes, filename) if hasattr(format_module, 'prepare_dump') else other"))

def checkingIterator : Stmt :=
  .seq (.yield_ .writer "first") (.forEach .iterData "iter_data -> other" laterBody)

def manyHandlers : Handlers :=
  .cons (.cls [.prepareDump, .dump]) .reraise
    (.cons .anyException (.raise_ .dump ["filename", "from exc"]) .nil)

/-- api.py `dump_many` -/
def dumpMany : Stmt :=
  .seq (.call (.select "dump_many") ["filename", "'dump_many'", "fmt"] "format_module")
  (.seq (.call .iterOf ["iter_data"] "iter_data")
  (.seq (.try_ (.call .nextFrame ["iter_data"] "first")
      (.cons (.cls [.stopIter]) (.raise_ .dump ["filename", "from exc"]) .nil))
  (.seq (preflight "first" "format_module.dump_many" "first")
    (.withOpen .w "filename" "f"
      (.try_ (.consume (.writer "dump_many") ["f", "checking_iterator()", "**kwargs"] checkingIterator)
        manyHandlers)))))

/-- api.py `write_input` -/
def writeInput : Stmt :=
  .seq (.call .selectInput ["filename", "fmt"] "input_module")
    (.withOpen .w "filename" "fh"
      (.try_ (.call (.writer "write_input") ["fh", "data", "template", "atom_line", "**kwargs"] "")
        (.cons .anyException (.raise_ .writeInput ["filename", "from exc"]) .nil)))

/-- api.py `load_one` -/
def loadOne : Stmt :=
  .seq (.call (.select "load_one") ["filename", "'load_one'", "fmt"] "format_module")
    (.withOpen .r "filename" "lit"
      (.try_
        (.seq (.call (.parse "load_one") ["lit", "**kwargs"] "")
          (.seq (.call .ctor ["**format_module.load_one(lit, **kwargs)"] "")
            (.ret "IOData(**format_module.load_one(lit, **kwargs))")))
        (.cons (.cls [.load]) .reraise
          (.cons (.cls [.stopIter]) (.raise_ .load ["lit", "from exc"])
            (.cons .anyException (.raise_ .load ["lit", "from exc"]) .nil)))))

def loadManyHandlers : Handlers :=
  .cons (.cls [.stopIter]) (.ret "")
    (.cons (.cls [.load]) .reraise
      (.cons .anyException (.raise_ .load ["lit", "from exc"]) .nil))

def loadManyBody : Stmt :=
  .seq (.call .ctor ["**data"] "") (.yield_ .user "IOData(**data)")

/-- api.py `load_many` -/
def loadMany : Stmt :=
  .seq (.call (.select "load_many") ["filename", "'load_many'", "fmt"] "format_module")
    (.withOpen .r "filename" "lit"
      (.try_ (.forEach .fmtMany "format_module.load_many(lit, **kwargs) -> data" loadManyBody)
        loadManyHandlers))

end Iodata.Flow.Ref

namespace Iodata.Flow
open Ref

theorem exec_seq (env : Env) (a b : Stmt) (st : St) :
    exec env (.seq a b) st = match exec env a st with
      | (.normal, st') => exec env b st'
      | r => r := rfl

theorem exec_seq_assoc (env : Env) (a b c : Stmt) (st : St) :
    exec env (.seq a (.seq b c)) st = exec env (.seq (.seq a b) c) st := by
  simp only [exec_seq]; rcases exec env a st with ⟨o, s⟩; cases o <;> rfl

theorem exec_call (env : Env) (c : Callee) (args : List String) (tgt : String) (st : St) :
    exec env (.call c args tgt) st = execCall env c st := rfl

theorem exec_select_fail (env : Env) (attr tgt : String) (args : List String) (rest : Stmt) (st : St) (e : Exc)
    (hs : env.b.select = some e) :
    exec env (.seq (.call (.select attr) args tgt) rest) st = (.raised e none, st) := by
  rw [exec_seq, exec_call, execCall, hs]; rfl

theorem exec_inl (env : Env) (n : String) (args : List String) (body : Stmt) (st : St) :
    exec env (.inl n args body) st = match exec env body st with
      | (.ret, st') => (.normal, st')
      | r => r := rfl

theorem exec_ifHasattr (env : Env) (o a : String) (t e : Stmt) (st : St) :
    exec env (.ifHasattr o a t e) st = if hasattrB env.b a then exec env t st else exec env e st := rfl

theorem exec_try (env : Env) (body : Stmt) (hs : Handlers) (st : St) :
    exec env (.try_ body hs) st = match exec env body st with
      | (.raised e ln, st') => execH env hs e ln st'
      | r => r := rfl

/-- leaving a `with` block: the file is closed whatever the outcome -/
def closeRes (r : Res) : Res := (r.1, { r.2 with trace := .close :: r.2.trace })

theorem exec_withOpen_ok (env : Env) (mode : Mode) (p v : String) (body : Stmt) (st : St)
    (ho : env.b.openFail = none) :
    exec env (.withOpen mode p v body) st = closeRes (exec env body (openFile env.path mode st)) := by
  show (match env.b.openFail with | some e => _ | none => _) = _
  rw [ho]; rfl

theorem exec_withOpen_fail (env : Env) (mode : Mode) (p v : String) (body : Stmt) (st : St) (e : Exc)
    (ho : env.b.openFail = some e) : exec env (.withOpen mode p v body) st = (.raised e none, st) := by
  show (match env.b.openFail with | some e => _ | none => _) = _
  rw [ho]

/-- the outcome of a step that returns or raises `e`, without a line number -/
def outOf : Option Exc → Out
  | none => .normal
  | some e => .raised e none

/-- outcome of the `_check_required` loop -/
def checkExc : List AttrB → Option Exc
  | [] => none
  | .val :: as => checkExc as
  | .none :: _ => some .prepareDump
  | .raises e :: _ => some e

/-- every required attribute is `None` or has a value and at least one is `None` ⇒ the check loop raises
`PrepareDumpError` (any subset of the required attributes, any position) -/
theorem check_missing_attr (as : List AttrB) (h : ∀ a ∈ as, a = .val ∨ a = .none) (hn : AttrB.none ∈ as) :
    checkExc as = some .prepareDump := by
  induction as with
  | nil => cases hn
  | cons a as ih =>
    rcases h a (List.mem_cons_self) with rfl | rfl
    · exact ih (fun x hx => h x (List.mem_cons_of_mem _ hx)) ((List.mem_cons.mp hn).resolve_left nofun)
    · rfl

/-- all that the pre-flight steps leave in the trace: attribute reads and the `prepare_dump` call -/
def PreEvs (evs : List Ev) : Prop := ∀ ev ∈ evs, ev = .getattr ∨ ev = .prep

theorem PreEvs.not_open {evs : List Ev} (h : PreEvs evs) : Ev.openW ∉ evs :=
  fun hm => by rcases h _ hm with h' | h' <;> cases h'

theorem PreEvs.not_write {evs : List Ev} (h : PreEvs evs) (t : Nat) : Ev.write t ∉ evs :=
  fun hm => by rcases h _ hm with h' | h' <;> cases h'

theorem exec_check (env : Env) (st : St) :
    ∃ a evs, PreEvs evs ∧ exec env checkRequired st
      = (outOf (checkExc st.cur.attrs), { st with attr := a, trace := evs ++ st.trace }) := by
  show ∃ a evs, PreEvs evs ∧ loopL _ st.cur.attrs st = _
  generalize st.cur.attrs = as
  induction as generalizing st with
  | nil => exact ⟨st.attr, [], List.forall_mem_nil _, rfl⟩
  | cons a as ih =>
    have one : PreEvs [.getattr] := List.forall_mem_singleton.mpr (Or.inl rfl)
    cases a with
    | val =>
      obtain ⟨a', evs, hev, h⟩ := ih { st with attr := .val, trace := .getattr :: st.trace }
      refine ⟨a', evs ++ [Ev.getattr], List.forall_mem_append.mpr ⟨hev, one⟩, ?_⟩
      rw [List.append_assoc]; exact h
    | none => exact ⟨.none, [.getattr], one, rfl⟩
    | raises e => exact ⟨.raises e, [.getattr], one, rfl⟩

/-- raw exception of the pre-flight steps (before the funnel) -/
def preFault (b : Beh) (f : Frame) : Option Exc :=
  match checkExc f.attrs with
  | some e => some e
  | none => if b.hasPrepare then f.prep else none

/-- `dump_one`, `dump_many` and the local generator of `dump_many` run these two steps with different argument
texts; the behaviour does not depend on them. -/
theorem exec_preSteps (env : Env) (st : St) :
    ∃ a evs, PreEvs evs ∧ ∀ (n o tgt : String) (as as' : List String),
      exec env (.seq (.inl n as checkRequired)
          (.ifHasattr o "prepare_dump" (.call .prepare as' tgt) .skip)) st
        = (outOf (preFault env.b st.cur), { st with attr := a, trace := evs ++ st.trace }) := by
  obtain ⟨a, evs, hev, h⟩ := exec_check env st
  have hattr : hasattrB env.b "prepare_dump" = env.b.hasPrepare := rfl
  simp only [exec_seq, exec_inl, exec_ifHasattr, exec_call, execCall, h, hattr, preFault]
  cases checkExc st.cur.attrs with
  | some e => exact ⟨a, evs, hev, fun _ _ _ _ _ => rfl⟩
  | none =>
    cases env.b.hasPrepare with
    | false => exact ⟨a, evs, hev, fun _ _ _ _ _ => rfl⟩
    | true =>
      refine ⟨a, .prep :: evs, List.forall_mem_cons.mpr ⟨Or.inr rfl, hev⟩, fun _ _ _ _ _ => ?_⟩
      simp only [outOf, if_true]
      cases st.cur.prep <;> rfl

/-- what the two `except` clauses of the pre-flight block make of an exception -/
def funnelPre (e : Exc) : Exc := if e.isException then .prepareDump else e

/-- `funnelPre`, `funnelDump` and `funnelInput` are this term with `x` the class their block raises. -/
theorem funnel_escape (x e : Exc) :
    (if e.isException then x else e) = x ∨ (if e.isException then x else e).isException = false := by
  split
  · exact Or.inl rfl
  · exact Or.inr (Bool.eq_false_iff.mpr ‹_›)

theorem execH_preflight (env : Env) (e : Exc) (st : St) :
    ∃ x, execH env preflightHandlers e none st = (.raised (funnelPre e) none, { st with exc := x }) := by
  cases e <;> exact ⟨_, rfl⟩

/-- outcome of the pre-flight block (`_check_required` + `prepare_dump` under the funnel) -/
def preExc (b : Beh) (f : Frame) : Option Exc := (preFault b f).map funnelPre

theorem preExc_eq (b : Beh) (f : Frame) : preExc b f = (preFault b f).map funnelPre := rfl

theorem preExc_escape {b : Beh} {f : Frame} {e : Exc} (h : preExc b f = some e) :
    e = .prepareDump ∨ e.isException = false := by
  obtain ⟨y, -, rfl⟩ := Option.map_eq_some_iff.mp h
  exact funnel_escape .prepareDump y

theorem preExc_of_fault {b : Beh} {f : Frame} {e : Exc} (h : preFault b f = some e) (he : e.isException = true) :
    preExc b f = some .prepareDump := by
  simp [preExc, h, funnelPre, he]

theorem preExc_of_ok {b : Beh} {f : Frame} (h : preFault b f = none) : preExc b f = none := by
  simp [preExc, h]

theorem exec_preflight (env : Env) (st : St) :
    ∃ a evs x, PreEvs evs ∧ ∀ obj fn tgt, exec env (preflight obj fn tgt) st
      = (outOf (preExc env.b st.cur), { st with attr := a, trace := evs ++ st.trace, exc := x }) := by
  obtain ⟨a, evs, hev, h⟩ := exec_preSteps env st
  simp only [preflight, exec_try, h, preExc]
  cases preFault env.b st.cur with
  | none => exact ⟨a, evs, st.exc, hev, fun _ _ _ => rfl⟩
  | some e =>
    obtain ⟨x, hx⟩ := execH_preflight env e { st with attr := a, trace := evs ++ st.trace }
    exact ⟨a, evs, x, hev, fun _ _ _ => hx⟩

/-- file system after `n` further `write` calls (tokens `k, k+1, …`) on `path` -/
def appendToks (fs : FS) (path : Nat) : Nat → Nat → FS
  | _, 0 => fs
  | k, n + 1 => appendToks (fsAppend fs path k) path (k + 1) n

/-- the `write` events of those calls, newest first -/
def wEvs : Nat → Nat → List Ev
  | _, 0 => []
  | k, n + 1 => wEvs (k + 1) n ++ [.write k]

theorem writeN_eq (path n : Nat) (st : St) :
    writeN path n st = { st with fs := appendToks st.fs path st.nw n,
                                 trace := wEvs st.nw n ++ st.trace, nw := st.nw + n } := by
  induction n generalizing st with
  | zero => simp [writeN, appendToks, wEvs]
  | succ n ih =>
    simp only [writeN, ih, write1, appendToks, wEvs]
    simp [Nat.add_assoc, Nat.add_comm 1 n]

theorem doWrites_eq (path : Nat) (w : WriteB) (st : St) :
    doWrites path w st = (outOf w.fail, { st with fs := appendToks st.fs path st.nw w.n,
                                                   trace := wEvs st.nw w.n ++ st.trace, nw := st.nw + w.n }) := by
  unfold doWrites; rw [writeN_eq]; cases w.fail <;> rfl

theorem appendToks_other (fs : FS) (path q k n : Nat) (h : q ≠ path) :
    appendToks fs path k n q = fs q := by
  induction n generalizing fs k with
  | zero => rfl
  | succ n ih => simp [appendToks, ih, fsAppend, h]

theorem appendToks_at (fs : FS) (path k n : Nat) :
    appendToks fs path k n path = if n = 0 then fs path else some ((fs path).getD [] ++ List.range' k n) := by
  induction n generalizing fs k with
  | zero => rfl
  | succ n ih =>
    simp only [appendToks, ih]
    cases n with
    | zero => simp [fsAppend]
    | succ m => simp [fsAppend, List.range'_succ]

theorem appendToks_add (fs : FS) (path k n m : Nat) :
    appendToks (appendToks fs path k n) path (k + n) m = appendToks fs path k (n + m) := by
  induction n generalizing fs k with
  | zero => simp [appendToks]
  | succ n ih =>
    have : n + 1 + m = (n + m) + 1 := by omega
    simp only [appendToks, this]
    rw [← ih]; congr 1; omega

/-- `with open(..., "w")` around a `try` whose handlers turn an exception `e` into `g e`: the write phase of
`dump_one`, `dump_many` and `write_input`.  Below these handlers nothing raises with a line number (only the load
funnels attach one), hence `outOf` and `ln = none` throughout the dump side. -/
theorem exec_openTry (env : Env) (hs : Handlers) (g : Exc → Exc)
    (hg : ∀ e s, ∃ y, execH env hs e none s = (.raised (g e) none, { s with exc := y }))
    (body : Stmt) (st s1 : St) (x : Option Exc) (hopen : env.b.openFail = none)
    (hb : exec env body (openFile env.path .w st) = (outOf x, s1)) :
    ∃ y, ∀ p v, exec env (.withOpen .w p v (.try_ body hs)) st
      = (outOf (x.map g), { s1 with trace := .close :: s1.trace, exc := y }) := by
  simp only [exec_withOpen_ok _ _ _ _ _ _ hopen, exec_try, hb]
  cases x with
  | none => exact ⟨s1.exc, fun _ _ => rfl⟩
  | some e =>
    obtain ⟨y, hy⟩ := hg e s1
    exact ⟨y, fun _ _ => congrArg closeRes hy⟩

theorem exec_writer (env : Env) (fn tgt : String) (args : List String) (st : St) :
    exec env (.call (.writer fn) args tgt) st
      = (outOf st.cur.w.fail, { st with fs := appendToks st.fs env.path st.nw st.cur.w.n,
                                        trace := wEvs st.nw st.cur.w.n ++ st.trace, nw := st.nw + st.cur.w.n }) :=
  doWrites_eq _ _ _

/-- what the `except DumpError: raise / except Exception: raise DumpError` funnel makes of an exception -/
def funnelDump (e : Exc) : Exc := if e.isException then .dump else e

theorem execH_dumpOne (env : Env) (e : Exc) (st : St) :
    ∃ x, execH env (.cons (.cls [.dump]) .reraise
        (.cons .anyException (.raise_ .dump ["filename", "from exc"]) .nil)) e none st
      = (.raised (funnelDump e) none, { st with exc := x }) := by
  cases e <;> exact ⟨_, rfl⟩

/-- what `dump_one` ends in: the first of selection error, pre-flight error, `open` error, funnelled writer error;
`return data` otherwise -/
def dumpOneOut (b : Beh) (f : Frame) : Out :=
  match b.select with
  | some e => .raised e none
  | none =>
    match preExc b f with
    | some e => .raised e none
    | none =>
      match b.openFail with
      | some e => .raised e none
      | none =>
        match f.w.fail with
        | none => .ret
        | some e => .raised (funnelDump e) none

/-- did the call get as far as opening the target? -/
def opened (b : Beh) (f : Frame) : Bool := b.select.isNone && (preExc b f).isNone && b.openFail.isNone

theorem dumpOneOut_rejected {b : Beh} {f : Frame} {e : Exc} (hs : b.select = none) (hp : preExc b f = some e) :
    dumpOneOut b f = .raised e none ∧ opened b f = false := by
  simp [dumpOneOut, opened, hs, hp]

theorem dumpOneOut_opened {b : Beh} {f : Frame} (hs : b.select = none) (hp : preExc b f = none)
    (ho : b.openFail = none) :
    dumpOneOut b f = (match f.w.fail with
      | none => .ret
      | some e => .raised (funnelDump e) none) ∧ opened b f = true := by
  simp [dumpOneOut, opened, hs, hp, ho]

/-- one stage of `dumpOneOut`, `manyOut`, `inputOut`: what leaves is the stage's own exception or comes from later -/
theorem stage_escape {x : Option Exc} {k : Out} {e : Exc} {ln : Option Int}
    (h : (match x with
      | some e => .raised e none
      | none => k) = Out.raised e ln) : x = some e ∨ k = .raised e ln := by
  cases x with
  | some y => cases h; exact Or.inl rfl
  | none => exact Or.inr h

/-- the classes that can leave `dump_one` -/
theorem dumpOneOut_escape {b : Beh} {f : Frame} {e : Exc} {ln : Option Int} (h : dumpOneOut b f = .raised e ln) :
    e = .prepareDump ∨ e = .dump ∨ b.select = some e ∨ b.openFail = some e ∨ e.isException = false := by
  rcases stage_escape h with hs | h
  · exact Or.inr (Or.inr (Or.inl hs))
  rcases stage_escape h with hp | h
  · exact (preExc_escape hp).elim Or.inl fun h => Or.inr (Or.inr (Or.inr (Or.inr h)))
  rcases stage_escape h with ho | h
  · exact Or.inr (Or.inr (Or.inr (Or.inl ho)))
  split at h
  · cases h
  · cases h; exact (funnel_escape .dump _).elim (Or.inr ∘ Or.inl) fun h => Or.inr (Or.inr (Or.inr (Or.inr h)))

theorem dump_one_master (b : Beh) (f : Frame) (path : Nat) (fs : FS) :
    ∃ st', runOne dumpOne b f path fs = (dumpOneOut b f, st') ∧
      ∃ evs, PreEvs evs ∧
        if opened b f then
          st'.fs = appendToks (fsSet fs path []) path 0 f.w.n ∧
          st'.trace = .close :: (wEvs 0 f.w.n ++ .openW :: evs)
        else st'.fs = fs ∧ st'.trace = evs := by
  unfold runOne dumpOne dumpOneOut opened
  rw [exec_seq, exec_call, execCall]
  cases b.select with
  | some e => exact ⟨_, rfl, [], List.forall_mem_nil _, rfl, rfl⟩
  | none =>
    obtain ⟨a, evs, x, hev, h⟩ := exec_preflight { b := b, path := path } { fs := fs, cur := f }
    simp only [raiseB, exec_seq, h, List.append_nil]
    cases preExc b f with
    | some e => exact ⟨_, rfl, evs, hev, rfl, rfl⟩
    | none =>
      cases ho : b.openFail with
      | some e =>
        simp only [outOf, exec_withOpen_fail { b := b, path := path } _ _ _ _ _ e ho]
        exact ⟨_, rfl, evs, hev, rfl, rfl⟩
      | none =>
        obtain ⟨y, hy⟩ := exec_openTry { b := b, path := path } _ funnelDump (execH_dumpOne _) _
          { fs := fs, cur := f, attr := a, trace := evs, exc := x } _ f.w.fail ho (exec_writer _ _ _ _ _)
        simp only [outOf]
        rw [hy]
        cases f.w.fail <;> exact ⟨_, rfl, evs, hev, rfl, rfl⟩

end Iodata.Flow
