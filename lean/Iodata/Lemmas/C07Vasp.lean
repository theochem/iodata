/- The VASP readers: the shapes numpy builds from the header, the value count and the `N + 2` read bound of the grid
   part (`for line in lit` swallows the end of the file, so one more read can follow), and the exception classes its statements
   and pieces can raise. -/
import Iodata.Lemmas.C07Readers

namespace Iodata.Rd.Vasp
open Iodata.Chars Iodata.Rd Iodata.Fmt

theorem foldN_atomStep_len : ∀ (n : Nat) (rows : List Nat),
    Returns (fun rows' => rows'.length = rows.length + n) (foldN atomStep n rows)
  | 0, _ => returns_pure rfl
  | n + 1, rows =>
    returns_bind_of (Q := fun r => r.length = rows.length + 1)
      (returns_bind fun _ => returns_bind fun _ => returns_pure rfl)
      fun r hr => returns_mono (foldN_atomStep_len n r) fun _ h => by omega

theorem arrayRows_ok {rows a : List Nat} (h : arrayRows rows = .ok a) :
    (rows = [] ∧ a = [0]) ∨ (0 < rows.length ∧ ∃ m, a = [rows.length, m]) := by
  cases rows with
  | nil => left; simp [arrayRows] at h; exact ⟨rfl, h.symm⟩
  | cons m r =>
    right
    simp only [arrayRows] at h
    by_cases hall : (r.all (· == m)) = true
    · simp only [hall, if_true] at h
      injection h with h; subst h; exact ⟨by simp, m, by simp⟩
    · simp only [hall] at h; cases h

theorem dotE_ok {a b : List Nat} {k : Nat} (h : dotE a k = .ok b) : ∃ n, a = [n, 3] ∧ b = [n, k] := by
  unfold dotE at h
  split at h
  · rename_i n m
    split at h
    · rename_i hm
      injection h with h
      exact ⟨n, by simp at hm; rw [hm], h.symm⟩
    · cases h
  · cases h

theorem header_good (T : Tables) : Good (loadHeader T) := by
  unfold loadHeader
  refine good_read fun _ =>
    good_read fun _ => good_stmt fun _ =>
    good_read fun _ => good_stmt fun _ =>
    good_read fun _ => good_stmt fun _ =>
    good_read fun _ => good_stmt fun _ =>
    good_stmt fun _ =>
    good_read fun _ => good_stmt fun _ =>
    good_read fun _ => good_stmt fun _ =>
    good_stmt fun _ =>
    good_read fun _ => good_stmt fun _ =>
    good_bind (good_ite good_next (good_pure _)) fun _ =>
    good_stmt fun _ =>
    good_bind (good_foldN (fun _ => good_read fun _ => good_stmt fun _ => good_pure _) _ _) fun _ =>
    good_stmt fun _ => good_stmt fun _ => good_pure _

/-- `len(atnums)` coordinate rows of one common length (`(0,)` without atoms) -/
def Hdr.Shaped (h : Hdr) : Prop :=
  (h.natom = 0 ∧ h.coordShape = [0]) ∨ (0 < h.natom ∧ ∃ m, h.coordShape = [h.natom, m])

/-- the coordinate loop runs `len(atnums)` times, `np.array` wants rows of one length, and in fractional mode
`np.dot` wants three columns and returns as many as the `(3, k)` cell has -/
theorem header_shapes (T : Tables) : Returns Hdr.Shaped (loadHeader T) := by
  refine returns_bind fun _ => returns_bind fun _ => returns_bind fun _ => returns_bind fun _ =>
    returns_bind fun k0 => returns_bind fun _ => returns_bind fun _ => returns_bind fun _ => returns_bind fun _ =>
    returns_bind fun _ => returns_bind fun _ => returns_bind fun _ => returns_bind fun _ => returns_bind fun _ =>
    returns_bind fun nz => returns_bind fun _ => returns_bind fun _ => returns_bind fun _ => returns_bind fun cart =>
    returns_bind_of (foldN_atomStep_len nz.1 []) fun rows hlen =>
    returns_bind_of (returns_liftE fun a => arrayRows_ok) fun a ha =>
    returns_bind_of (returns_liftE fun _ hc => hc) fun cshape hc => returns_pure ?_
  simp only [List.length_nil, Nat.zero_add] at hlen
  show (nz.1 = 0 ∧ cshape = [0]) ∨ (0 < nz.1 ∧ ∃ m, cshape = [nz.1, m])
  rw [← hlen]
  cases cart with
  | true => cases hc; exact ha.imp (fun ⟨h1, h2⟩ => ⟨by rw [h1]; rfl, h2⟩) id
  | false =>
    obtain ⟨n, han, hb⟩ := dotE_ok hc
    rcases ha with ⟨-, ha0⟩ | ⟨hpos, m, ham⟩
    · rw [ha0] at han; cases han
    · rw [ham] at han
      exact Or.inr ⟨hpos, k0, by rw [hb, ← (List.cons.inj han).1]⟩

theorem poscar_form (T : Tables) : Returns (fun o => ∃ h : Hdr, h.Shaped ∧ o = h.toObj) (loadPoscar T) :=
  returns_bind_of (header_shapes T) fun h hs => returns_pure ⟨h, hs, rfl⟩

theorem dataLoop_good : ∀ (n : Nat) (ws : List Str) (acc : Nat), Good (dataLoop n ws acc)
  | 0, _, _ => good_pure _
  | n + 1, _ :: ws, _ => good_stmt fun _ => dataLoop_good n ws _
  | n + 1, [], _ => good_read fun line => by
    cases splitWs line with
    | nil => exact good_raise _
    | cons w ws => exact good_stmt fun _ => dataLoop_good n ws _

theorem dataLoop_count : ∀ (n : Nat) (ws : List Str) (acc : Nat), Returns (fun c => c = acc + n) (dataLoop n ws acc)
  | 0, _, _ => returns_pure rfl
  | n + 1, _ :: ws, acc => returns_bind fun _ => returns_mono (dataLoop_count n ws (acc + 1)) fun _ h => by omega
  | n + 1, [], acc => returns_bind fun line => by
    cases splitWs line with
    | nil => exact returns_raise
    | cons w ws => exact returns_bind fun _ => returns_mono (dataLoop_count n ws (acc + 1)) fun _ h => by omega

theorem shapeLoopGo_wf : ∀ (rest : List Str) (k : Nat) (last : Option (List Int)),
    Wf (k + rest.length) (shapeLoopGo rest k last).2 :=
  scan_wf (fun _ _ => rfl) fun x r k last => by
    rw [shapeLoopGo]
    cases intsAll (splitWs x) with
    | error e => exact Or.inl rfl
    | ok vs =>
      dsimp only
      split
      · exact Or.inl rfl
      · exact Or.inr ⟨some vs, rfl⟩

theorem gridTail_good (cellK : Nat) (vals : List Int) : Good (gridTail cellK vals) := by
  unfold gridTail
  refine good_stmt fun _ => ?_
  split
  · exact good_bind (dataLoop_good _ _ _) fun _ => good_ite (good_raise _) (good_ite (good_raise _) (good_pure _))
  · exact good_raise _

/-- the read bound of the grid part: started in a clean state it ends with `lineno ≤ N + 2` (the shape loop may
have hit the end; the rest reads at most once more) -/
theorem gridPart_bound (cellK : Nat) (total : Nat) (l : Lit) (hl : Clean total l) :
    (gridPart cellK l).2.lineno ≤ total + 2 := by
  have hw : Wf total (shapeLoop l).2 := hl ▸ shapeLoopGo_wf l.rest l.lineno none
  unfold gridPart RM.bind
  rcases hs : shapeLoop l with ⟨_ | _ | vals, l1⟩ <;> rw [hs] at hw
  · exact Nat.le_succ_of_le (wf_lineno_le hw)
  · exact Nat.le_succ_of_le (wf_lineno_le hw)
  · exact (gridTail_good cellK vals).fin.lineno_le hw

/-- the read bound of `_load_vasp_grid`: `N + 2` (`for line in lit` swallows the end of the file, the value loop
may hit it once more) -/
theorem loadGrid_bound (T : Tables) (ls : List Str) : (run (loadGrid T) ls).lineno ≤ ls.length + 2 := by
  have hg := header_good T ls.length ⟨ls, 0⟩ (Nat.zero_add _)
  unfold run loadGrid RM.bind
  generalize loadHeader T ⟨ls, 0⟩ = p at hg ⊢
  rcases p with ⟨e | hd, l1⟩
  · exact Nat.le_succ_of_le (wf_lineno_le hg)
  · have hb := gridPart_bound hd.cellK ls.length l1 hg.1
    dsimp only
    generalize gridPart hd.cellK l1 = q at hb ⊢
    rcases q with ⟨_ | _, l2⟩ <;> exact hb

theorem gridPart_ok (cellK : Nat) :
    Returns (fun g => cellK = 3 ∧ ∃ a b c, g.1 = [a, b, c] ∧ g.2 = a * b * c) (gridPart cellK) :=
  returns_bind fun last => by
    cases last with
    | none => exact returns_raise
    | some vals =>
      show Returns _ (gridTail cellK vals)
      unfold gridTail
      refine returns_bind fun _ => ?_
      split
      · exact returns_bind_of (dataLoop_count _ _ _) fun cnt hc =>
          returns_ite (fun _ => returns_raise) fun _ => returns_ite (fun _ => returns_raise) fun hk =>
            returns_pure ⟨by simpa using hk, _, _, _, rfl, by simpa using hc⟩
      · exact returns_raise

theorem grid_form (T : Tables) {l l' : Lit} {o : RObj} (h : loadGrid T l = (.ok o, l')) :
    ∃ (hd : Hdr) (g : List Nat × Nat) (l1 l2 : Lit), hd.Shaped ∧ gridPart hd.cellK l1 = (.ok g, l2) ∧
      o = { hd.toObj with cube := some g.1 } := by
  obtain ⟨hd, l1, hh, h⟩ := bind_ok h
  obtain ⟨g, l2, hg, h⟩ := bind_ok h
  exact ⟨hd, g, l1, l2, header_shapes T _ _ _ hh, hg, (pure_ok h).1.symm⟩

theorem floatsAll_err : ∀ ws : List Str, ErrIn [.value] (floatsAll ws)
  | [] => errIn_ok
  | w :: ws => by
    unfold floatsAll
    cases h : floatE w with
    | error e => exact errIn_error (floatE_err w e h)
    | ok _ => exact floatsAll_err ws

theorem intsAll_err : ∀ ws : List Str, ErrIn [.value] (intsAll ws)
  | [] => errIn_ok
  | w :: ws => by
    unfold intsAll
    cases pyInt w with
    | none => exact errIn_error (by decide)
    | some v =>
      cases h : intsAll ws with
      | error e => exact errIn_error (intsAll_err ws e h)
      | ok _ => exact errIn_ok

theorem symsAll_err (T : Tables) : ∀ ws : List Str, ErrIn [.key] (symsAll T ws)
  | [] => errIn_ok
  | w :: ws => by
    unfold symsAll
    cases T.num? w with
    | none => exact errIn_error (by decide)
    | some z =>
      cases h : symsAll T ws with
      | error e => exact errIn_error (symsAll_err T ws e h)
      | ok _ => exact errIn_ok

theorem cellRow_err (line : Str) : ErrIn [.value] (cellRow line) := by
  unfold cellRow
  dsimp only
  cases h : floatsAll (splitWs line) with
  | error e => exact errIn_error (floatsAll_err _ e h)
  | ok _ => exact errIn_ok

theorem atomRow_err (line : Str) : ErrIn [.value] (atomRow line) := by
  unfold atomRow
  dsimp only
  cases h : floatsAll ((splitWs line).take 3) with
  | error e => exact errIn_error (floatsAll_err _ e h)
  | ok _ => exact errIn_ok

theorem arrayRows_err : ∀ rows : List Nat, ErrIn [.value] (arrayRows rows)
  | [] => errIn_ok
  | _ :: _ => errIn_ite errIn_ok (errIn_error (by decide))

theorem dotE_err (a : List Nat) (k : Nat) : ErrIn [.value] (dotE a k) := by
  unfold dotE
  split
  · exact errIn_ite errIn_ok (errIn_error (by decide))
  · exact errIn_error (by decide)

theorem firstIn_err : ∀ (line : Str) (cs : List Char), ErrIn [.index] (firstIn line cs)
  | [], _ => errIn_error (by decide)
  | _ :: _, _ => errIn_ok

theorem extendE_err : ∀ (zs : List Nat) (cs : List Int) (acc : Nat × Nat), ErrIn [.overflow, .memory] (extendE zs cs acc)
  | _ :: zs, _ :: cs, (_, _) =>
    errIn_ite (errIn_error (by decide)) (errIn_ite (errIn_error (by decide)) (extendE_err zs cs _))
  | [], _, _ => errIn_ok
  | _ :: _, [], _ => errIn_ok

theorem zerosE_err (vals : List Int) : ErrIn [.value, .type, .memory] (zerosE vals) := by
  refine errIn_ite errIn_ok (errIn_ite (errIn_error (by decide)) (errIn_ite (errIn_error (by decide))
    (errIn_ite (errIn_error (by decide)) ?_)))
  cases h : allocE vals with
  | error e => exact errIn_error ((allocE_err vals).mono (by decide) e h)
  | ok _ => exact errIn_ite (errIn_error (by decide)) errIn_ok

/-- the classes `_load_vasp_header` (hence `poscar.load_one`) can raise -/
def headerClasses : List Cls := [.stopIter, .value, .key, .index, .overflow, .memory]
/-- the classes `_load_vasp_grid` (hence `chgcar.load_one`, `locpot.load_one`) can raise -/
def gridClasses : List Cls := [.stopIter, .value, .key, .index, .overflow, .memory, .type, .name]

theorem header_raises (T : Tables) : Raises headerClasses (loadHeader T) := by
  have hv : ∀ c ∈ [Cls.value], c ∈ headerClasses := by decide
  have hi : ∀ c ∈ [Cls.index], c ∈ headerClasses := by decide
  have hn : Raises headerClasses nextLine := raises_next (by decide)
  unfold loadHeader
  refine raises_bind hn fun _ =>
    raises_bind hn fun _ => raises_stmt (floatE_err _) hv fun _ =>
    raises_bind hn fun _ => raises_stmt (cellRow_err _) hv fun _ =>
    raises_bind hn fun _ => raises_stmt (cellRow_err _) hv fun _ =>
    raises_bind hn fun _ => raises_stmt (cellRow_err _) hv fun _ =>
    raises_stmt (arrayRows_err _) hv fun _ =>
    raises_bind hn fun _ => raises_stmt (symsAll_err T _) (by decide) fun _ =>
    raises_bind hn fun _ => raises_stmt (intsAll_err _) hv fun _ =>
    raises_stmt (extendE_err _ _ _) (by decide) fun _ =>
    raises_bind hn fun _ => raises_stmt (firstIn_err _ _) hi fun _ =>
    raises_bind (raises_ite hn (raises_pure _ _)) fun _ =>
    raises_stmt (firstIn_err _ _) hi fun _ =>
    raises_bind (raises_foldN (fun rows => ?_) _ _) fun _ =>
    raises_stmt (arrayRows_err _) hv fun _ =>
    raises_bind (raises_liftE (errIn_ite errIn_ok ((dotE_err _ _).mono hv))) fun _ => raises_pure _ _
  unfold atomStep
  exact raises_bind hn fun _ => raises_stmt (atomRow_err _) hv fun _ => raises_pure _ _

theorem dataLoop_raises : ∀ (n : Nat) (ws : List Str) (acc : Nat), Raises gridClasses (dataLoop n ws acc)
  | 0, _, _ => raises_pure _ _
  | n + 1, _ :: ws, _ => raises_stmt (floatE_err _) (by decide) fun _ => dataLoop_raises n ws _
  | n + 1, [], _ => raises_bind (raises_next (by decide)) fun line => by
    cases splitWs line with
    | nil => exact raises_raise (by decide)
    | cons w ws => exact raises_stmt (floatE_err _) (by decide) fun _ => dataLoop_raises n ws _

theorem shapeLoopGo_err : ∀ (rest : List Str) (k : Nat) (last : Option (List Int)),
    ErrIn [.value] (shapeLoopGo rest k last).1
  | [], _, _ => errIn_ok
  | x :: r, k, _ => by
    rw [shapeLoopGo]
    cases h : intsAll (splitWs x) with
    | error e => exact errIn_error (intsAll_err _ e h)
    | ok vs =>
      dsimp only
      split
      · exact errIn_ok
      · exact shapeLoopGo_err r (k + 1) (some vs)

theorem shapeLoop_raises : Raises gridClasses shapeLoop :=
  fun l c _ h => (shapeLoopGo_err l.rest l.lineno none).mono (by decide) c (congrArg Prod.fst h)

theorem gridPart_raises (cellK : Nat) : Raises gridClasses (gridPart cellK) := by
  unfold gridPart
  refine raises_bind shapeLoop_raises fun last => ?_
  cases last with
  | none => exact raises_raise (by decide)
  | some vals =>
    dsimp only
    unfold gridTail
    refine raises_stmt (zerosE_err _) (by decide) fun _ => ?_
    split
    · exact raises_bind (dataLoop_raises _ _ _) fun _ =>
        raises_ite (raises_raise (by decide)) (raises_ite (raises_raise (by decide)) (raises_pure _ _))
    · exact raises_raise (by decide)

theorem grid_raises (T : Tables) : Raises gridClasses (loadGrid T) := by
  unfold loadGrid
  exact raises_bind (raises_mono (header_raises T) (by decide)) fun h =>
    raises_bind (gridPart_raises _) fun _ => raises_pure _ _

end Iodata.Rd.Vasp
