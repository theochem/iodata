/-
The arithmetic of `Iodata.CartPure.checkTable` on integers.  Every number the checker meets is dyadic (doubles,
the enclosures `r/2⁶⁴`, `(r+1)/2⁶⁴` of `1/√d`, sums of products of these): an interval `[p.1/2^K, p.2/2^K]` is
carried as the integer pair `p`, the level `K` being known from the place in the computation.  In `checkZ` the
conditions (a)–(d) are those of `checkTable` with `I.add`, `I.scale`, `I.within`, `uRow`, `getI`, `dphi`,
`harmonicRow`, `allZero` replaced by integer twins and each `I.sum` of scaled intervals by one pass of
`Z2.dot`.  Two things are not twins: the flags of the enclosures are still `(invSqrt d).2`, evaluated in
`Rat`; and an entry `g·sᵢ·sⱼ` of `W` is written out as the pair of products of natural numbers
`(g·rᵢ·rⱼ, g·(rᵢ+1)·(rⱼ+1))` (`w_toI`).  `Z2.toI` commutes with each twin; `checkTable_dy` carries that
through the checker; `checkTable_of_int` is what `Props/C06Tables.lean` applies.
-/
import Iodata.Model.CartPure
import Mathlib.Algebra.Order.Field.Rat
import Mathlib.Tactic.Ring
import Mathlib.Tactic.FieldSimp
import Mathlib.Tactic.Linarith

namespace Iodata.CartPure
open Iodata.Overlap

theorem getD_map_map {α β : Type} (f : α → β) (t : List (List α)) (m : Nat) :
    (t.map (List.map f)).getD m [] = (t.getD m []).map f := by
  simp only [List.getD_eq_getElem?_getD, List.getElem?_map]
  cases t[m]? <;> rfl

/-- an interval given by the numerators of its two end points; the denominator `2^K` is implicit -/
abbrev Z2 := Int × Int

/-- the dyadic rational `a / 2^E` -/
def dy (E : Nat) (a : Int) : Rat := (a : Rat) / ((2 ^ E : Nat) : Rat)

/-- the interval `[p.1 / 2^K, p.2 / 2^K]` -/
def Z2.toI (K : Nat) (p : Z2) : I := (dy K p.1, dy K p.2)

/-- integer twin of `I.add` -/
def Z2.add (a b : Z2) : Z2 := (a.1 + b.1, a.2 + b.2)
/-- integer twin of `I.scale` -/
def Z2.scale (q : Int) (a : Z2) : Z2 := if q < 0 then (q * a.2, q * a.1) else (q * a.1, q * a.2)

/-- integer twin of `I.within · c tol` at level `K`: the two comparisons cleared of denominators -/
def Z2.within (K : Nat) (a : Z2) (c : Int) : Bool :=
  decide ((c * 1000000000000 - 1) * (2 ^ K : Nat) ≤ a.1 * 1000000000000)
    && decide (a.2 * 1000000000000 ≤ (c * 1000000000000 + 1) * (2 ^ K : Nat))

/-- `acc + Σ rᵢ · xsᵢ` over the non-zero `rᵢ`, in one pass (the lists are matched one after the other:
the kernel unfolds that faster than a simultaneous match) -/
def Z2.dot : List Int → List Z2 → Z2 → Z2
  | [], _, acc => acc
  | a :: r, xs, acc =>
    match xs with
    | [] => acc
    | x :: xs => Z2.dot r xs (if a = 0 then acc else acc.add (Z2.scale a x))

/-- integer twin of `getI`: `r.getD i (0, 0)` -/
def getZ : List Z2 → Nat → Z2
  | [], _ => (0, 0)
  | x :: r, i =>
    match i with
    | 0 => x
    | i + 1 => getZ r i

/-- integer twin of `uRow` -/
def uRowZ (s : List Z2) (row : List Int) : List Z2 := (row.zip s).map fun p => Z2.scale p.1 p.2

/-- integer twin of `dphi` -/
def dphiZ (c : List (Nat × Nat × Nat)) (r : List Z2) : List Z2 :=
  c.map fun n =>
    let t1 : Z2 :=
      if 1 ≤ n.1 then Z2.scale ((n.2.1 + 1 : Nat) : Int) (getZ r (idxOfCart c (n.1 - 1, n.2.1 + 1, n.2.2)))
      else (0, 0)
    let t2 : Z2 :=
      if 1 ≤ n.2.1 then Z2.scale (-((n.1 + 1 : Nat) : Int)) (getZ r (idxOfCart c (n.1 + 1, n.2.1 - 1, n.2.2)))
      else (0, 0)
    Z2.add t1 t2

/-- integer twin of `harmonicRow` -/
def harmonicRowZ (K l : Nat) (c : List (Nat × Nat × Nat)) (r : List Z2) : Bool :=
  (cartAlphabet (l - 2)).all fun n =>
    let v := Z2.add (Z2.add
      (Z2.scale (((n.1 + 2) * (n.1 + 1) : Nat) : Int) (getZ r (idxOfCart c (n.1 + 2, n.2.1, n.2.2))))
      (Z2.scale (((n.2.1 + 2) * (n.2.1 + 1) : Nat) : Int) (getZ r (idxOfCart c (n.1, n.2.1 + 2, n.2.2)))))
      (Z2.scale (((n.2.2 + 2) * (n.2.2 + 1) : Nat) : Int) (getZ r (idxOfCart c (n.1, n.2.1, n.2.2 + 2))))
    Z2.within K v 0

/-- integer twin of `allZero` -/
def allZeroZ (K : Nat) (v : List Z2) : Bool := v.all fun x => Z2.within K x 0

/-- `⌊2⁶⁴/√d⌋` -/
def rootZ (d : Nat) : Nat := Nat.sqrt (two64 * two64 / d)

/-- the enclosure `[r/2⁶⁴, (r+1)/2⁶⁴]` of `1/√d` for `r = rootZ d`, level 64 -/
def encOf (r : Nat) : Z2 := ((r : Int), ((r + 1 : Nat) : Int))

/-- `checkTable` for the table with entries `tz / 2^E`: the enclosures are at level 64, the rows `u` at
`64 + E`, `W` (formed from natural numbers) at 128, the sums of condition (b) at `128 + E + E`. -/
def checkZ (l E : Nat) (tz : List (List Int)) : Bool :=
  let c := cartAlphabet l
  let r := c.map fun n => rootZ (dOf n)
  let shapeOk := decide (tz.length = 2 * l + 1) && tz.all (fun row => decide (row.length = c.length))
  let encOk := c.all fun n => (invSqrt (dOf n)).2
  let u : List (List Z2) := tz.map (uRowZ (r.map encOf))
  let K := 64 + E
  let harm := decide (l < 2) || u.all (harmonicRowZ K l c)
  let w : List (List Z2) := (c.zip r).map fun a => (c.zip r).map fun b =>
    (((gram a.1 b.1 * (a.2 * b.2) : Nat) : Int), ((gram a.1 b.1 * ((a.2 + 1) * (b.2 + 1)) : Nat) : Int))
  let ortho := (List.range tz.length).all fun m => (List.range (m + 1)).all fun m' =>
    Z2.within (64 + 64 + E + E)
      (Z2.dot (tz.getD m []) (w.map fun wr => Z2.dot (tz.getD m' []) wr (0, 0)) (0, 0)) (if m = m' then 1 else 0)
  let row := fun k => u.getD k []
  let lz0 := allZeroZ K (dphiZ c (row 0))
  let lz := (List.range l).all fun m' =>
    let m := m' + 1
    let cm := row (2 * m - 1)
    let sm := row (2 * m)
    allZeroZ K (((dphiZ c cm).zip sm).map fun p => Z2.add p.1 (Z2.scale (m : Int) p.2))
      && allZeroZ K (((dphiZ c sm).zip cm).map fun p => Z2.add p.1 (Z2.scale (-(m : Int)) p.2))
  let sgn := (List.range (l + 1)).all fun m =>
    decide (((2 ^ K : Nat) : Int) < (getZ (row (if m = 0 then 0 else 2 * m - 1)) (idxOfCart c (m, 0, l - m))).1 * 10000)
  shapeOk && encOk && harm && ortho && lz0 && lz && sgn

theorem pow2_pos (K : Nat) : (0 : Rat) < ((2 ^ K : Nat) : Rat) := by positivity

theorem Z2.toI_zero (K : Nat) : Z2.toI K (0, 0) = (0, 0) := by simp [Z2.toI, dy]

theorem Z2.toI_add (K : Nat) (a b : Z2) : I.add (a.toI K) (b.toI K) = (a.add b).toI K := by
  simp only [I.add, Z2.toI, Z2.add, dy, Int.cast_add, add_div]

theorem Z2.toI_scale (K E : Nat) (q : Int) (a : Z2) :
    I.scale (dy E q) (a.toI K) = (Z2.scale q a).toI (K + E) := by
  have h : dy E q < 0 ↔ q < 0 := by
    unfold dy; rw [div_lt_iff₀ (pow2_pos E), zero_mul]; exact Int.cast_lt_zero
  have e : ∀ x y : Int, dy E x * dy K y = dy (K + E) (x * y) := by
    intro x y; simp only [dy, pow_add, Nat.cast_mul, Int.cast_mul]; field_simp
  unfold I.scale Z2.scale
  by_cases hq : q < 0
  · rw [if_pos (h.mpr hq), if_pos hq]; simp only [Z2.toI, e]
  · rw [if_neg (mt h.mp hq), if_neg hq]; simp only [Z2.toI, e]

theorem Z2.toI_scale_int (K : Nat) (q : Int) (a : Z2) : I.scale (q : Rat) (a.toI K) = (Z2.scale q a).toI K := by
  simpa [dy] using Z2.toI_scale K 0 q a

theorem Z2.toI_scale_nat (K g : Nat) (a : Z2) : I.scale (g : Rat) (a.toI K) = (Z2.scale (g : Int) a).toI K := by
  simpa using Z2.toI_scale_int K g a

theorem Z2.toI_scale_neg_nat (K g : Nat) (a : Z2) :
    I.scale (-(g : Rat)) (a.toI K) = (Z2.scale (-(g : Int)) a).toI K := by
  simpa using Z2.toI_scale_int K (-(g : Int)) a

theorem Z2.toI_mulPos (K K' : Nat) (a b : Z2) :
    I.mulPos (a.toI K) (b.toI K') = Z2.toI (K + K') (a.1 * b.1, a.2 * b.2) := by
  simp only [I.mulPos, Z2.toI, dy, pow_add, Nat.cast_mul, Int.cast_mul, div_mul_div_comm]

theorem Z2.toI_within (K : Nat) (a : Z2) (c : Int) :
    I.within (a.toI K) (c : Rat) tol = Z2.within K a c := by
  have hK := pow2_pos K
  unfold I.within Z2.within Z2.toI dy tol
  congr 1 <;> rw [decide_eq_decide]
  · rw [le_div_iff₀ hK, ← Int.cast_natCast (R := Rat), ← @Int.cast_le Rat]
    push_cast
    constructor <;> intro h <;> linarith
  · rw [div_le_iff₀ hK, ← Int.cast_natCast (R := Rat), ← @Int.cast_le Rat]
    push_cast
    constructor <;> intro h <;> linarith

theorem Z2.toI_within_zero (K : Nat) (a : Z2) : I.within (a.toI K) 0 tol = Z2.within K a 0 := by
  simpa using Z2.toI_within K a 0

theorem Z2.toI_within_ite (K : Nat) (a : Z2) (p : Prop) [Decidable p] :
    I.within (a.toI K) (if p then 1 else 0) tol = Z2.within K a (if p then 1 else 0) := by
  split
  · simpa using Z2.toI_within K a 1
  · exact Z2.toI_within_zero K a

theorem dy_eq_zero (E : Nat) (a : Int) : dy E a = 0 ↔ a = 0 := by
  unfold dy; rw [div_eq_zero_iff, or_iff_left (pow2_pos E).ne', Int.cast_eq_zero]

theorem lt_dy (K : Nat) (x : Int) : (1 : Rat) / 10000 < dy K x ↔ ((2 ^ K : Nat) : Int) < x * 10000 := by
  unfold dy
  rw [lt_div_iff₀ (pow2_pos K), ← Int.cast_natCast (R := Rat), ← @Int.cast_lt Rat]
  push_cast
  constructor <;> intro h <;> linarith

theorem Z2.toI_dot (K E : Nat) (r : List Int) (xs : List Z2) (acc : Z2) :
    (((r.map (dy E)).zip (xs.map (Z2.toI K))).map fun a => if a.1 = 0 then (0, 0) else I.scale a.1 a.2).foldl
      I.add (acc.toI (K + E)) = (Z2.dot r xs acc).toI (K + E) := by
  induction r generalizing xs acc with
  | nil => rfl
  | cons a r ih =>
    cases xs with
    | nil => rfl
    | cons x xs =>
      simp only [List.map_cons, List.zip_cons_cons, List.foldl_cons, Z2.dot, dy_eq_zero]
      rw [← ih]
      congr 1
      split
      · exact Prod.ext (add_zero _) (add_zero _)
      · rw [Z2.toI_scale, Z2.toI_add]

theorem sum_toI (K E : Nat) (r : List Int) (xs : List Z2) :
    I.sum (((r.map (dy E)).zip (xs.map (Z2.toI K))).map fun a => if a.1 = 0 then (0, 0) else I.scale a.1 a.2)
      = (Z2.dot r xs (0, 0)).toI (K + E) := by
  rw [← Z2.toI_dot, Z2.toI_zero]; rfl

/-- the double sum of condition (b) -/
theorem sum_sum_toI (K E : Nat) (r r' : List Int) (w : List (List Z2)) :
    I.sum (((r.map (dy E)).zip (w.map (List.map (Z2.toI K)))).map fun a => if a.1 = 0 then (0, 0) else
      I.scale a.1 (I.sum (((r'.map (dy E)).zip a.2).map fun b => if b.1 = 0 then (0, 0) else I.scale b.1 b.2)))
      = (Z2.dot r (w.map fun wr => Z2.dot r' wr (0, 0)) (0, 0)).toI (K + E + E) := by
  rw [← sum_toI, List.zip_map_right, List.zip_map_right, List.map_map, List.map_map]
  simp only [Function.comp_def, Prod.map, id, sum_toI]
  rw [List.zip_map_right, List.map_map]
  rfl

theorem getI_toI (K : Nat) (r : List Z2) (i : Nat) : getI (r.map (Z2.toI K)) i = (getZ r i).toI K := by
  induction r generalizing i with
  | nil => exact (Z2.toI_zero K).symm
  | cons x r ih =>
    cases i with
    | zero => rfl
    | succ i => exact ih i

theorem uRow_dy (K E : Nat) (s : List Z2) (r : List Int) :
    uRow (s.map (Z2.toI K)) (r.map (dy E)) = (uRowZ s r).map (Z2.toI (K + E)) := by
  unfold uRow uRowZ
  rw [List.zip_map, List.map_map, List.map_map]
  apply List.map_congr_left; intro p _
  exact Z2.toI_scale K E p.1 p.2

theorem harmonicRow_toI (K l : Nat) (c : List (Nat × Nat × Nat)) (r : List Z2) :
    harmonicRow l c (r.map (Z2.toI K)) = harmonicRowZ K l c r := by
  unfold harmonicRow harmonicRowZ
  congr 1; funext n
  simp only [getI_toI, Z2.toI_scale_nat, Z2.toI_add, Z2.toI_within_zero]

theorem dphi_toI (K : Nat) (c : List (Nat × Nat × Nat)) (r : List Z2) :
    dphi c (r.map (Z2.toI K)) = (dphiZ c r).map (Z2.toI K) := by
  unfold dphi dphiZ
  rw [List.map_map]
  apply List.map_congr_left; intro n _
  simp only [Function.comp, getI_toI, Z2.toI_scale_nat, Z2.toI_scale_neg_nat, ← Z2.toI_zero K,
    ← apply_ite (Z2.toI K), Z2.toI_add]

theorem allZero_toI (K : Nat) (v : List Z2) : allZero (v.map (Z2.toI K)) = allZeroZ K v := by
  unfold allZero allZeroZ
  rw [List.all_map]
  congr 1; funext x
  exact Z2.toI_within_zero K x

/-- `∂φ a + q·b`, entry by entry -/
theorem zip_add_scale_toI (K : Nat) (q : Int) (xs ys : List Z2) :
    ((xs.map (Z2.toI K)).zip (ys.map (Z2.toI K))).map (fun p => I.add p.1 (I.scale (q : Rat) p.2))
      = ((xs.zip ys).map fun p => Z2.add p.1 (Z2.scale q p.2)).map (Z2.toI K) := by
  rw [List.zip_map, List.map_map, List.map_map]
  apply List.map_congr_left; intro p _
  simp only [Function.comp, Prod.map, Z2.toI_scale_int, Z2.toI_add]

theorem enc_toI (c : List (Nat × Nat × Nat)) :
    (c.map fun n => invSqrt (dOf n)).map (·.1) = ((c.map fun n => rootZ (dOf n)).map encOf).map (Z2.toI 64) := by
  simp only [List.map_map]
  apply List.map_congr_left; intro n _
  simp [invSqrt, rootZ, encOf, Z2.toI, dy, two64]

theorem w_toI (c : List (Nat × Nat × Nat)) (r : List Nat) :
    ((c.zip ((r.map encOf).map (Z2.toI 64))).map fun a => (c.zip ((r.map encOf).map (Z2.toI 64))).map fun b =>
      I.scale ((gram a.1 b.1 : Nat) : Rat) (I.mulPos a.2 b.2))
    = ((c.zip r).map fun a => (c.zip r).map fun b =>
        ((((gram a.1 b.1 * (a.2 * b.2) : Nat) : Int), ((gram a.1 b.1 * ((a.2 + 1) * (b.2 + 1)) : Nat) : Int)) : Z2)).map
      (List.map (Z2.toI (64 + 64))) := by
  simp only [List.zip_map_right, List.map_map]
  apply List.map_congr_left; intro a _
  simp only [Function.comp, List.map_map]
  apply List.map_congr_left; intro b _
  have hg : ¬ ((gram a.1 b.1 : Nat) : Int) < 0 := Int.not_lt.mpr (Int.natCast_nonneg _)
  simp only [Function.comp, Prod.map, id, Z2.toI_mulPos, Z2.toI_scale_nat, Z2.scale, if_neg hg, encOf]
  push_cast
  rfl

theorem checkTable_dy (l E : Nat) (tz : List (List Int)) :
    checkTable l (tz.map (List.map (dy E))) = checkZ l E tz := by
  have hu : ∀ s : List Z2, (tz.map (List.map (dy E))).map (uRow (s.map (Z2.toI 64)))
      = (tz.map (uRowZ s)).map (List.map (Z2.toI (64 + E))) := fun s =>
    List.map_map.trans ((List.map_congr_left fun r _ => uRow_dy 64 E s r).trans List.map_map.symm)
  have e1 := fun (K g : Nat) => zip_add_scale_toI K (g : Int)
  have e2 := fun (K g : Nat) => zip_add_scale_toI K (-(g : Int))
  simp only [Int.cast_natCast, Int.cast_neg] at e1 e2
  have hfst : ∀ (K : Nat) (p : Z2), (p.toI K).1 = dy K p.1 := fun _ _ => rfl
  unfold checkTable checkZ
  simp only [enc_toI, hu, w_toI, getD_map_map, sum_sum_toI, Z2.toI_within_ite, List.length_map, List.all_map,
    Function.comp_def, harmonicRow_toI, dphi_toI, e1, e2, allZero_toI, getI_toI, hfst, lt_dy]

/-- numerator of `q` over `2^E`; exact when `q.den ∣ 2^E` -/
def toZ (E : Nat) (q : Rat) : Int := q.num * ((2 ^ E / q.den : Nat) : Int)

theorem dy_toZ (E : Nat) (q : Rat) (h : 2 ^ E % q.den = 0) : dy E (toZ E q) = q := by
  obtain ⟨k, hk⟩ := Nat.dvd_of_mod_eq_zero h
  have hkd : 2 ^ E / q.den = k := by rw [hk, Nat.mul_div_cancel_left _ q.den_pos]
  have hk0 : (k : Rat) ≠ 0 := by
    rintro h0
    rw [Nat.cast_eq_zero.mp h0] at hk
    simp at hk
  unfold dy toZ
  rw [hkd, hk]; push_cast
  rw [mul_div_mul_right _ _ hk0, Rat.num_div_den]

/-- all denominators divide `2^E`, and the table of numerators passes -/
def checkInt (l E : Nat) (tf : List (List Rat)) : Bool :=
  (tf.all fun r => r.all fun q => 2 ^ E % q.den == 0) && checkZ l E (tf.map (List.map (toZ E)))

theorem checkTable_of_int (l E : Nat) (tf : List (List Rat)) (h : checkInt l E tf = true) :
    checkTable l tf = true := by
  simp only [checkInt, Bool.and_eq_true, List.all_eq_true, beq_iff_eq] at h
  have htf : (tf.map (List.map (toZ E))).map (List.map (dy E)) = tf := by
    rw [List.map_map]
    conv_rhs => rw [← List.map_id tf]
    apply List.map_congr_left; intro r hr
    simp only [Function.comp, List.map_map, id]
    conv_rhs => rw [← List.map_id r]
    exact List.map_congr_left fun q hq => dy_toZ E q (h.1 r hr q hq)
  rw [← htf, checkTable_dy]
  exact h.2

end Iodata.CartPure
