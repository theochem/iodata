/- The dump side of the API flow: `dump_many` and `write_input`. -/
import Iodata.Lemmas.Flow
namespace Iodata.Flow
open Ref

theorem outOf_ne_ret (o : Option Exc) : outOf o ≠ .ret := by cases o <;> simp [outOf]

/-- what may stand in the trace between the `open` of the target and its `close` -/
def MidEvs (evs : List Ev) : Prop := ∀ ev ∈ evs, ev ≠ .openW ∧ ev ≠ .close

theorem MidEvs.append {a b : List Ev} (ha : MidEvs a) (hb : MidEvs b) : MidEvs (a ++ b) :=
  List.forall_mem_append.mpr ⟨ha, hb⟩
theorem MidEvs.wEvs (k n : Nat) : MidEvs (wEvs k n) := by
  induction n generalizing k with
  | zero => exact List.forall_mem_nil _
  | succ n ih => exact (ih _).append (List.forall_mem_singleton.mpr (by simp))
theorem MidEvs.ofPre {evs : List Ev} (h : PreEvs evs) : MidEvs evs := by
  intro ev hm; rcases h ev hm with rfl | rfl <;> simp

/-- `s'` arises from `s` by `n` completed `write` calls on `path` and events other than `open` / `close` -/
structure Wrote (path n : Nat) (s s' : St) : Prop where
  fs : s'.fs = appendToks s.fs path s.nw n
  nw : s'.nw = s.nw + n
  tr : ∃ evs, s'.trace = evs ++ s.trace ∧ MidEvs evs

theorem Wrote.refl {path : Nat} {s : St} : Wrote path 0 s s := ⟨rfl, rfl, [], rfl, List.forall_mem_nil _⟩

theorem Wrote.trans {path n m : Nat} {a b c : St} (h1 : Wrote path n a b) (h2 : Wrote path m b c) :
    Wrote path (n + m) a c := by
  obtain ⟨e1, t1, m1⟩ := h1.tr
  obtain ⟨e2, t2, m2⟩ := h2.tr
  exact ⟨by rw [h2.fs, h1.fs, h1.nw, appendToks_add], by rw [h2.nw, h1.nw, Nat.add_assoc],
    e2 ++ e1, by rw [t2, t1, List.append_assoc], m2.append m1⟩

theorem Wrote.doWrites (path : Nat) (w : WriteB) (s : St) :
    ∃ s', doWrites path w s = (outOf w.fail, s') ∧ Wrote path w.n s s' :=
  ⟨_, doWrites_eq path w s, rfl, rfl, _, rfl, MidEvs.wEvs _ _⟩

/-- raw exception of processing one later frame in `checking_iterator` + the writer's work on it -/
def frameExc (b : Beh) (f : Frame) : Option Exc :=
  match preFault b f with
  | some e => some e
  | none => f.w.fail

/-- `write` calls completed for that frame -/
def frameWrites (b : Beh) (f : Frame) : Nat :=
  match preFault b f with
  | some _ => 0
  | none => f.w.n

theorem exec_later (env : Env) (f : Frame) (s : St) :
    ∃ s', exec env laterBody { s with cur := f } = (outOf (frameExc env.b f), s')
      ∧ Wrote env.path (frameWrites env.b f) s s' := by
  obtain ⟨a, evs, hev, h⟩ := exec_preSteps env { s with cur := f }
  have hpre : Wrote env.path 0 s { s with cur := f, attr := a, trace := evs ++ s.trace } :=
    ⟨rfl, rfl, evs, rfl, MidEvs.ofPre hev⟩
  rw [laterBody, exec_seq_assoc, exec_seq, h, frameExc, frameWrites]
  cases preFault env.b f with
  | some e => exact ⟨_, rfl, hpre⟩
  | none =>
    obtain ⟨s', hw, hs'⟩ := Wrote.doWrites env.path f.w { s with cur := f, attr := a, trace := evs ++ s.trace }
    exact ⟨s', hw, by simpa using hpre.trans hs'⟩

/-- raw exception of the loop of `checking_iterator` over the later frames: that of the first frame that has one -/
def loopExc (b : Beh) : List Frame → Option Exc
  | [] => none
  | f :: fs =>
    match frameExc b f with
    | some e => some e
    | none => loopExc b fs

/-- `write` calls completed by that loop: all frames up to and including the faulty one contribute -/
def loopWrites (b : Beh) : List Frame → Nat
  | [] => 0
  | f :: fs =>
    frameWrites b f + (match frameExc b f with
      | some _ => 0
      | none => loopWrites b fs)

/-- frames that pass the checks and are written completely, then one with a pre-flight fault: the loop stops there
with that fault, after the writes of the good frames -/
theorem loop_good_then_bad (b : Beh) (good : List Frame) (bad : Frame) (rest : List Frame) (e : Exc)
    (hg : ∀ f ∈ good, preFault b f = none ∧ f.w.fail = none) (hb : preFault b bad = some e) :
    loopExc b (good ++ bad :: rest) = some e ∧
    loopWrites b (good ++ bad :: rest) = (good.map (fun f => f.w.n)).sum := by
  induction good with
  | nil => simp [loopExc, loopWrites, frameExc, frameWrites, hb]
  | cons g gs ih =>
    have hgg := hg g (List.mem_cons_self)
    have ih' := ih (fun f hf => hg f (List.mem_cons_of_mem _ hf))
    simp [loopExc, loopWrites, frameExc, frameWrites, hgg.1, hgg.2, ih'.1, ih'.2]

theorem later_loop (env : Env) (frames : List Frame) (s : St) :
    ∃ s', loopL (fun f s => exec env laterBody { s with cur := f }) frames s = (outOf (loopExc env.b frames), s')
      ∧ Wrote env.path (loopWrites env.b frames) s s' := by
  induction frames generalizing s with
  | nil => exact ⟨s, rfl, Wrote.refl⟩
  | cons f fs ih =>
    obtain ⟨s1, h1, w1⟩ := exec_later env f s
    rw [loopL, h1, loopExc, loopWrites]
    cases frameExc env.b f with
    | some e => exact ⟨s1, rfl, w1⟩
    | none =>
      obtain ⟨s2, h2, w2⟩ := ih s1
      exact ⟨s2, h2, w1.trans w2⟩

/-- `except (PrepareDumpError, DumpError): raise / except Exception: raise DumpError` -/
def funnelMany (e : Exc) : Exc :=
  if e = .prepareDump then .prepareDump else if e.isException then .dump else e

theorem funnelMany_escape (e : Exc) :
    funnelMany e = .prepareDump ∨ funnelMany e = .dump ∨ (funnelMany e).isException = false := by
  unfold funnelMany
  split
  · exact Or.inl rfl
  · exact Or.inr (funnel_escape .dump e)

theorem execH_many (env : Env) (e : Exc) (st : St) :
    ∃ x, execH env manyHandlers e none st = (.raised (funnelMany e) none, { st with exc := x }) := by
  cases e <;> exact ⟨_, rfl⟩

/-- two stages of the writer in sequence: the second runs only if the first raised nothing -/
def seqRes (a b : Option Exc × Nat) : Option Exc × Nat :=
  match a.1 with
  | some e => (some e, a.2)
  | none => (b.1, a.2 + b.2)

/-- raw exception leaving the writer of `dump_many` and the number of completed `write` calls -/
def consumeRes (b : Beh) (f0 : Frame) (rest : List Frame) : Option Exc × Nat :=
  seqRes (b.pre.fail, b.pre.n) (seqRes (f0.w.fail, f0.w.n)
    (seqRes (loopExc b rest, loopWrites b rest) (seqRes (endOf b.iterEnd, 0) (b.post.fail, b.post.n))))

theorem consumeRes_loop_fault {b : Beh} {f0 : Frame} {rest : List Frame} {e : Exc} (hpre : b.pre.fail = none)
    (h0 : f0.w.fail = none) (hl : loopExc b rest = some e) :
    consumeRes b f0 rest = (some e, b.pre.n + (f0.w.n + loopWrites b rest)) := by
  simp [consumeRes, seqRes, hpre, h0, hl]

/-- the writer of `dump_many`: header, first frame, the later frames as the generator hands them over, footer.
The frames are named through `hcur`, `hrest`, so that a caller whose state is a term, not a variable, gets
`consumeRes` of its own frames and not of projections of that term. -/
theorem exec_consume (env : Env) (st : St) (f0 : Frame) (rest : List Frame)
    (hcur : st.cur = f0) (hrest : st.rest = rest) :
    ∃ st', (∀ c args, exec env (.consume c args checkingIterator) st = (outOf (consumeRes env.b f0 rest).1, st'))
      ∧ Wrote env.path (consumeRes env.b f0 rest).2 st st' := by
  subst hcur hrest
  obtain ⟨s1, h1, w1⟩ := Wrote.doWrites env.path env.b.pre st
  obtain ⟨s2, h2, w2⟩ := Wrote.doWrites env.path st.cur.w s1
  obtain ⟨s3, h3, w3⟩ := later_loop env st.rest { s2 with rest := [] }
  obtain ⟨s4, h4, w4⟩ := Wrote.doWrites env.path env.b.post s3
  have hc : s1.cur = st.cur ∧ s1.rest = st.rest ∧ s2.rest = s1.rest := by
    rw [doWrites_eq] at h1 h2; cases h1; cases h2; exact ⟨rfl, rfl, rfl⟩
  have w2' : Wrote env.path st.cur.w.n s1 { s2 with rest := [] } := ⟨w2.fs, w2.nw, w2.tr⟩
  simp only [exec, h1, consumeRes]
  cases env.b.pre.fail with
  | some e => exact ⟨s1, fun _ _ => rfl, w1⟩
  | none =>
    simp only [outOf, checkingIterator, exec_seq, exec, hc.1, h2, seqRes]
    cases st.cur.w.fail with
    | some e => exact ⟨s2, fun _ _ => rfl, w1.trans w2⟩
    | none =>
      simp only [outOf, hc.2.2, hc.2.1, h3]
      cases loopExc env.b st.rest with
      | some e => exact ⟨s3, fun _ _ => rfl, w1.trans (w2'.trans w3)⟩
      | none =>
        cases endOf env.b.iterEnd with
        | some e => exact ⟨s3, fun _ _ => rfl, w1.trans (w2'.trans w3)⟩
        | none =>
          simp only [raiseB, h4]
          exact ⟨s4, fun _ _ => by cases env.b.post.fail <;> rfl, w1.trans (w2'.trans (w3.trans (Wrote.refl.trans w4)))⟩

/-- `next(iter_data)` on an empty iterator: `StopIteration` is turned into `DumpError`, anything else passes -/
def firstNextExc (b : Beh) : Exc :=
  match b.iterEnd with
  | none => .dump
  | some e => if e = .stopIter then .dump else e

/-- what `dump_many` ends in, as `dumpOneOut`, with the empty sequence first and the writer's work over all frames -/
def manyOut (b : Beh) (frames : List Frame) : Out :=
  match b.select with
  | some e => .raised e none
  | none =>
    match frames with
    | [] => .raised (firstNextExc b) none
    | f0 :: rest =>
      match preExc b f0 with
      | some e => .raised e none
      | none =>
        match b.openFail with
        | some e => .raised e none
        | none =>
          match (consumeRes b f0 rest).1 with
          | none => .normal
          | some e => .raised (funnelMany e) none

theorem manyOut_rejected {b : Beh} {f0 : Frame} {rest : List Frame} {e : Exc} (hs : b.select = none)
    (hp : preExc b f0 = some e) : manyOut b (f0 :: rest) = .raised e none := by
  simp [manyOut, hs, hp]

theorem manyOut_opened {b : Beh} {f0 : Frame} {rest : List Frame} (hs : b.select = none)
    (hp : preExc b f0 = none) (ho : b.openFail = none) :
    manyOut b (f0 :: rest) = match (consumeRes b f0 rest).1 with
      | none => .normal
      | some e => .raised (funnelMany e) none := by
  simp [manyOut, hs, hp, ho]

/-- the classes that can leave `dump_many`: as for `dump_one`, and what the first `next()` of an empty iterator
raises when that is not `StopIteration` -/
theorem manyOut_escape {b : Beh} {frames : List Frame} {e : Exc} {ln : Option Int}
    (h : manyOut b frames = .raised e ln) :
    e = .prepareDump ∨ e = .dump ∨ b.select = some e ∨ b.openFail = some e ∨ e.isException = false
      ∨ (frames = [] ∧ b.iterEnd = some e) := by
  rcases stage_escape h with hs | h
  · exact Or.inr (Or.inr (Or.inl hs))
  cases frames with
  | nil =>
    cases h
    unfold firstNextExc
    split
    · exact Or.inr (Or.inl rfl)
    · next y hi =>
      split
      · exact Or.inr (Or.inl rfl)
      · exact Or.inr (Or.inr (Or.inr (Or.inr (Or.inr ⟨rfl, hi⟩))))
  | cons f0 rest =>
    rcases stage_escape h with hp | h
    · exact (preExc_escape hp).elim Or.inl fun h => Or.inr (Or.inr (Or.inr (Or.inr (Or.inl h))))
    rcases stage_escape h with ho | h
    · exact Or.inr (Or.inr (Or.inr (Or.inl ho)))
    split at h
    · cases h
    · cases h
      rcases funnelMany_escape _ with h | h | h
      · exact Or.inl h
      · exact Or.inr (Or.inl h)
      · exact Or.inr (Or.inr (Or.inr (Or.inr (Or.inl h))))

theorem dump_many_master (b : Beh) (frames : List Frame) (path : Nat) (fs : FS) :
    ∃ st', runMany dumpMany b frames path fs = (manyOut b frames, st') ∧
      match frames with
      | [] => st'.fs = fs ∧ st'.trace = []
      | f0 :: rest =>
        ∃ evs, PreEvs evs ∧
          if (b.select.isNone && (preExc b f0).isNone && b.openFail.isNone) = true then
            st'.fs = appendToks (fsSet fs path []) path 0 (consumeRes b f0 rest).2 ∧
            ∃ mid, MidEvs mid ∧ st'.trace = .close :: (mid ++ .openW :: evs)
          else st'.fs = fs ∧ st'.trace = evs := by
  unfold runMany dumpMany manyOut
  rw [exec_seq, exec_call, execCall]
  cases b.select with
  | some e =>
    cases frames with
    | nil => exact ⟨_, rfl, rfl, rfl⟩
    | cons f0 rest => exact ⟨_, rfl, [], List.forall_mem_nil _, rfl, rfl⟩
  | none =>
    cases frames with
    | nil =>
      simp only [raiseB, exec_seq, exec_try, exec_call, execCall, firstNextExc]
      cases b.iterEnd with
      | none => exact ⟨_, rfl, rfl, rfl⟩
      | some e => cases e <;> exact ⟨_, rfl, rfl, rfl⟩
    | cons f0 rest =>
      obtain ⟨a, evs, x, hev, h⟩ := exec_preflight { b := b, path := path } { fs := fs, cur := f0, rest := rest }
      simp only [List.append_nil] at h
      simp only [raiseB, exec_seq, exec_try, exec_call, execCall, h]
      cases preExc b f0 with
      | some e => exact ⟨_, rfl, evs, hev, rfl, rfl⟩
      | none =>
        cases ho : b.openFail with
        | some e =>
          simp only [outOf, exec_withOpen_fail { b := b, path := path } _ _ _ _ _ e ho]
          exact ⟨_, rfl, evs, hev, rfl, rfl⟩
        | none =>
          obtain ⟨st2, h2, w⟩ := exec_consume { b := b, path := path }
            (openFile path .w { fs := fs, cur := f0, rest := rest, attr := a, trace := evs, exc := x }) f0 rest rfl rfl
          obtain ⟨mid, htr, hmid⟩ := w.tr
          obtain ⟨y, hy⟩ := exec_openTry { b := b, path := path } _ funnelMany (execH_many _) _
            { fs := fs, cur := f0, rest := rest, attr := a, trace := evs, exc := x } st2 _ ho (h2 _ _)
          simp only [outOf]
          rw [hy]
          cases (consumeRes b f0 rest).1 <;> exact ⟨_, rfl, evs, hev, w.fs, mid, hmid, congrArg (Ev.close :: ·) htr⟩

/-- `except Exception: raise WriteInputError` -/
def funnelInput (e : Exc) : Exc := if e.isException then .writeInput else e

theorem execH_input (env : Env) (e : Exc) (st : St) :
    ∃ x, execH env (.cons .anyException (.raise_ .writeInput ["filename", "from exc"]) .nil) e none st
      = (.raised (funnelInput e) none, { st with exc := x }) := by
  cases e <;> exact ⟨_, rfl⟩

/-- what `write_input` ends in: selection error, `open` error or funnelled writer error; `None` otherwise -/
def inputOut (b : Beh) (f : Frame) : Out :=
  match b.select with
  | some e => .raised e none
  | none =>
    match b.openFail with
    | some e => .raised e none
    | none =>
      match f.w.fail with
      | none => .normal
      | some e => .raised (funnelInput e) none

/-- the classes that can leave `write_input` -/
theorem inputOut_escape {b : Beh} {f : Frame} {e : Exc} {ln : Option Int} (h : inputOut b f = .raised e ln) :
    e = .writeInput ∨ b.select = some e ∨ b.openFail = some e ∨ e.isException = false := by
  rcases stage_escape h with hs | h
  · exact Or.inr (Or.inl hs)
  rcases stage_escape h with ho | h
  · exact Or.inr (Or.inr (Or.inl ho))
  split at h
  · cases h
  · cases h; exact (funnel_escape .writeInput _).elim Or.inl fun h => Or.inr (Or.inr (Or.inr h))

theorem write_input_master (b : Beh) (f : Frame) (path : Nat) (fs : FS) :
    ∃ st', runOne writeInput b f path fs = (inputOut b f, st') ∧
      if (b.select.isNone && b.openFail.isNone) = true then
        st'.fs = appendToks (fsSet fs path []) path 0 f.w.n ∧
        st'.trace = .close :: (wEvs 0 f.w.n ++ [.openW])
      else st'.fs = fs ∧ st'.trace = [] := by
  unfold runOne writeInput inputOut
  rw [exec_seq, exec_call, execCall]
  cases b.select with
  | some e => exact ⟨_, rfl, rfl, rfl⟩
  | none =>
    cases ho : b.openFail with
    | some e =>
      simp only [raiseB, exec_withOpen_fail { b := b, path := path } _ _ _ _ _ e ho]
      exact ⟨_, rfl, rfl, rfl⟩
    | none =>
      obtain ⟨y, hy⟩ := exec_openTry { b := b, path := path } _ funnelInput (execH_input _) _ { fs := fs, cur := f } _
        f.w.fail ho (exec_writer _ _ _ _ _)
      simp only [raiseB]
      rw [hy]
      cases f.w.fail <;> exact ⟨_, rfl, rfl, rfl⟩

end Iodata.Flow
