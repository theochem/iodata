/- Round trip of scientific notation: `float(pad + f"{x: w.dE}" + pad')` is `x`, for every exponent and every mantissa
of `d + 1` digits (`man < 10^(d+1)`, `d ≥ 1`). -/
import Iodata.Lemmas.Decimal
namespace Iodata.Decimal
open Iodata.Chars

theorem natToDec_lt10 (n : Nat) (h : n < 10) : natToDec n = [digitChar n] := by
  unfold natToDec natToDecF; simp [h]

theorem div_pow_lt_ten {m d : Nat} (hm : m < 10 ^ (d + 1)) : m / 10 ^ d < 10 :=
  Nat.div_lt_of_lt_mul (by rw [← Nat.pow_succ]; exact hm)

theorem expStr_allDigits_tail (e : Int) :
    ∃ ds, expStr e = (if e < 0 then '-' else '+') :: ds ∧ AllDigits ds ∧ decToNat? ds = some e.natAbs ∧ 2 ≤ ds.length := by
  unfold expStr
  by_cases h : (natToDec e.natAbs).length < 2
  · refine ⟨'0' :: natToDec e.natAbs, by simp [h], ?_, ?_, ?_⟩
    · intro c hc; rcases List.mem_cons.mp hc with hc | hc
      · subst hc; decide
      · exact allDigits_natToDec _ c hc
    · have := digitsVal_natToDec e.natAbs
      simp only [decToNat?, List.isEmpty_cons, Bool.false_eq_true, if_false, digitsVal, digitsValGo] at this ⊢
      simpa [charDigit?] using this
    · exact Nat.succ_le_succ (List.length_pos_iff.mpr (natToDec_ne_nil e.natAbs))
  · exact ⟨natToDec e.natAbs, by simp [h], allDigits_natToDec _, decToNat_natToDec _, by omega⟩

theorem expStr_noWs (e : Int) : NoWs (expStr e) := by
  obtain ⟨ds, h, hd, _, _⟩ := expStr_allDigits_tail e
  rw [h]
  exact noWs_cons (by split <;> decide) hd.noWs

theorem splitSign_expStr (e : Int) : ∃ ds, splitSign (expStr e) = (decide (e < 0), ds) ∧ decToNat? ds = some e.natAbs := by
  obtain ⟨ds, h, _, hv, _⟩ := expStr_allDigits_tail e
  refine ⟨ds, ?_, hv⟩
  rw [h]
  by_cases he : e < 0 <;> simp [he, splitSign]

theorem sciBody_noWs (c : Char) (hc : isWs c = false) (d m : Nat) (e : Int) : NoWs (manDigits d m ++ c :: expStr e) :=
  noWs_append (fixDigits_noWs d m) (noWs_cons hc (expStr_noWs e))

theorem manDigits_head (d m : Nat) : ∃ c r, manDigits d m = c :: r ∧ c ∈ digitChars := fixDigits_head d m

/-- `float(pad + text + pad')` for the text of a `.dE` / `.de` field (with or without the `' '` flag) is the
mantissa/exponent pair that was printed — every sign (incl. `-0.0`), every exponent (any number of digits) -/
theorem pySci_sciCoreC (sp : Bool) (c : Char) (hc : c = 'E' ∨ c = 'e') (d : Nat) (x : Sci) (hd : 0 < d)
    (hm : x.man < 10 ^ (d + 1)) (p q : Str) (hp : AllWs p) (hq : AllWs q) :
    pySci d (p ++ (sciCoreC sp c d x ++ q)) = some x := by
  obtain ⟨neg, m, e⟩ := x
  have hcw : isWs c = false := by rcases hc with h | h <;> subst h <;> decide
  have hhead : ∃ ch r, manDigits d m ++ c :: expStr e = ch :: r ∧ ch ∈ digitChars := by
    obtain ⟨ch, r, h, hm⟩ := manDigits_head d m
    exact ⟨ch, r ++ c :: expStr e, by rw [h]; rfl, hm⟩
  unfold pySci sciCoreC
  rw [splitSign_strip_signed sp neg _ p q hp hq (sciBody_noWs c hcw d m e) hhead]
  have hip : natToDec (m / 10 ^ d) = [digitChar (m / 10 ^ d)] := natToDec_lt10 _ (div_pow_lt_ten hm)
  have hdne : d ≠ 0 := by omega
  have hcd : isDigitA c = false := by rcases hc with h | h <;> subst h <;> decide
  have hce : (c == 'E' || c == 'e') = true := by rcases hc with h | h <;> subst h <;> decide
  have h1 := takeWhile_run isDigitA (natToDec (m / 10 ^ d)) (digitsW d (m % 10 ^ d) ++ c :: expStr e) '.'
    (allDigits_natToDec _).digitA (by decide)
  have h2 := takeWhile_run isDigitA (digitsW d (m % 10 ^ d)) (expStr e) c (allDigits_digitsW _ _).digitA hcd
  obtain ⟨ds, hs, hv⟩ := splitSign_expStr e
  have hu : manDigits d m ++ c :: expStr e
      = natToDec (m / 10 ^ d) ++ '.' :: (digitsW d (m % 10 ^ d) ++ c :: expStr e) := by
    simp [manDigits, hdne]
  simp only [hu, h1.1, h1.2, h2.1, h2.2, hce, length_digitsW, hs, hv, digitsVal_natToDec,
    digitsVal_digitsW_lt d (m % 10 ^ d) (Nat.mod_lt _ (Nat.pow_pos (by omega)))]
  simp only [hip, List.length_singleton, decide_true, Bool.and_self, if_true]
  rw [Nat.div_add_mod' m (10 ^ d), sign_natAbs]

theorem pySci_fmtSci (sp up : Bool) (w d : Nat) (x : Sci) (hd : 0 < d) (hm : x.man < 10 ^ (d + 1)) (q : Str) (hq : AllWs q) :
    pySci d (fmtSci sp up w d x ++ q) = some x := by
  unfold fmtSci rjust sciCore
  rw [List.append_assoc]
  exact pySci_sciCoreC sp _ (by cases up <;> simp) d x hd hm _ q (allWs_spaces _) hq

theorem sciCoreC_noWs (c : Char) (hc : isWs c = false) (d : Nat) (x : Sci) : NoWs (sciCoreC false c d x) :=
  noWs_append (signStr_noWs x.neg) (sciBody_noWs c hc d x.man x.exp)

theorem sciCoreC_ne_nil (sp : Bool) (c : Char) (d : Nat) (x : Sci) : sciCoreC sp c d x ≠ [] := by
  obtain ⟨ch, r, h, _⟩ := manDigits_head d x.man
  unfold sciCoreC; rw [h]; simp

theorem fmtSci_eq (sp up : Bool) (w d : Nat) (x : Sci) :
    fmtSci sp up w d x
      = (spaces (w - (sciCore sp up d x).length) ++ signPad sp x.neg) ++ sciCoreC false (if up then 'E' else 'e') d x := by
  simp only [fmtSci, rjust, sciCore, sciCoreC, signStr_eq sp, List.append_assoc]

theorem pySci_sciCoreC_self (c : Char) (hc : c = 'E' ∨ c = 'e') (d : Nat) (x : Sci) (hd : 0 < d)
    (hm : x.man < 10 ^ (d + 1)) : pySci d (sciCoreC false c d x) = some x := by
  simpa using pySci_sciCoreC false c hc d x hd hm [] [] allWs_nil allWs_nil

theorem replaceD_append (a b : Str) : replaceD (a ++ b) = replaceD a ++ replaceD b := by simp [replaceD]

theorem replaceD_id (s : Str) (h : 'D' ∉ s) : replaceD s = s := by
  have : ∀ c ∈ s, (fun c => if c == 'D' then 'E' else c) c = id c :=
    fun c hc => if_neg (by simpa using fun (e : c = 'D') => h (e ▸ hc))
  rw [replaceD, List.map_congr_left this, List.map_id]

theorem AllDigits.no_D {s : Str} (h : AllDigits s) : 'D' ∉ s := h.not_mem (by decide)

theorem manDigits_no_D (d m : Nat) : 'D' ∉ manDigits d m :=
  fun h => (fixDigits_chars d m _ h).elim (by decide) (by decide)

theorem expStr_no_D (e : Int) : 'D' ∉ expStr e := by
  obtain ⟨ds, h, hd, _, _⟩ := expStr_allDigits_tail e
  rw [h]; intro hc
  rcases List.mem_cons.mp hc with hc | hc
  · split at hc <;> exact absurd hc (by decide)
  · exact hd.no_D hc

/-- a number printed by Fortran with a `D` exponent becomes the `E` text after `.replace("D", "E")` -/
theorem replaceD_sciCoreC (sp : Bool) (d : Nat) (x : Sci) : replaceD (sciCoreC sp 'D' d x) = sciCoreC sp 'E' d x := by
  have h1 : 'D' ∉ signStr sp x.neg := by cases sp <;> cases x.neg <;> decide
  have h3 : replaceD ('D' :: expStr x.exp) = 'E' :: replaceD (expStr x.exp) := rfl
  simp only [sciCoreC, replaceD_append, replaceD_id _ h1, replaceD_id _ (manDigits_no_D d x.man), h3,
    replaceD_id _ (expStr_no_D x.exp)]

theorem replaceD_allWs (p : Str) (hp : AllWs p) : replaceD p = p :=
  replaceD_id p (fun h => absurd (hp _ h) (by decide))

/-- `float(word.replace("D", "E"))` on Fortran `D` text gives the printed mantissa/exponent pair -/
theorem pySci_replaceD (sp : Bool) (d : Nat) (x : Sci) (hd : 0 < d) (hm : x.man < 10 ^ (d + 1)) (p q : Str)
    (hp : AllWs p) (hq : AllWs q) : pySci d (replaceD (p ++ (sciCoreC sp 'D' d x ++ q))) = some x := by
  rw [replaceD_append, replaceD_append, replaceD_sciCoreC, replaceD_allWs p hp, replaceD_allWs q hq]
  exact pySci_sciCoreC sp 'E' (Or.inl rfl) d x hd hm p q hp hq

theorem length_sciCoreC (sp : Bool) (c : Char) (d : Nat) (x : Sci) (hd : 0 < d) (hm : x.man < 10 ^ (d + 1)) :
    (sciCoreC sp c d x).length = (signStr sp x.neg).length + (d + 3) + (expStr x.exp).length := by
  have hdne : d ≠ 0 := by omega
  simp [sciCoreC, manDigits, natToDec_lt10 _ (div_pow_lt_ten hm), hdne, length_digitsW]
  omega

end Iodata.Decimal
