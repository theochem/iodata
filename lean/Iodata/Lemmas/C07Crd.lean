/- The CHARMM CRD reader (`Model/Rd/Crd.lean`): its title loop as a read-until loop, the form of a returned object, and the
   exception classes of its statements. -/
import Iodata.Lemmas.C07Readers

namespace Iodata.Rd.Crd
open Iodata.Chars Iodata.Rd

theorem titleLoop_spec (rest : List Str) (k : Nat) :
    (∃ l', titleLoop rest k = (.ok (), l') ∧ Clean (k + rest.length) l' ∧ k < l'.lineno) ∨
    titleLoop rest k = (.error .load, ⟨[], k + rest.length + 1⟩) :=
  seek_spec (p := isEndMarker) (fun _ => rfl) (fun _ _ _ => rfl) rest k

theorem titleSec_good : Good titleSec := seek_good (p := isEndMarker) (fun _ => rfl) fun _ _ _ => rfl

theorem titleSec_raises {S : List Cls} (h : Cls.load ∈ S) : Raises S titleSec := by
  intro l c l' hm
  rcases titleLoop_spec l.rest l.lineno with ⟨_, h1, -⟩ | h1 <;> cases h1.symm.trans hm
  exact h

theorem titleSec_reads {l l' : Lit} {u : Unit} (h : titleSec l = (.ok u, l')) : l.lineno < l'.lineno := by
  rcases titleLoop_spec l.rest l.lineno with ⟨_, h1, -, hk⟩ | h1 <;> cases h1.symm.trans h
  exact hk

theorem crd_form :
    Returns (fun o => ∃ n : Nat, o =
        { atcoords := some [n, 3], atmasses := some [n], atffparams := [n, n, n], extraAtom := [n, n],
          hasTitle := true, hasAtffparams := true, hasExtra := true })
      loadOne :=
  returns_bind fun _ => returns_bind fun _ => returns_bind fun natom => returns_bind fun _ => returns_bind fun _ =>
    returns_pure ⟨natom.toNat, rfl⟩

theorem countE_err (s : Str) : ErrIn [.load, .value] (countE s) :=
  errIn_ite ((intE_err s).mono (by decide)) (errIn_error (by decide))

theorem digits_nosign : ∀ t : Str, isDigitStrU t = true → splitSignU t = (false, t) := by
  intro t ht
  cases t with
  | nil => rfl
  | cons a r =>
    unfold isDigitStrU at ht
    simp only [List.isEmpty_cons, Bool.not_false, List.all_cons, Bool.and_eq_true, Bool.true_and] at ht
    have ha := ht.1
    have h1 : a ≠ '-' := by intro h; subst h; revert ha; decide
    have h2 : a ≠ '+' := by intro h; subst h; revert ha; decide
    simp [splitSignU, h1, h2]

/-- the atom count is a natural number -/
theorem countE_nonneg {s : Str} {n : Int} (h : countE s = .ok n) : 0 ≤ n := by
  unfold countE at h
  split at h
  · next hd =>
    -- a string of digits has no sign, so `int()` returns the value of its digit part
    have hp : pyInt s = (digitPart (strip s)).map fun m => (m : Int) := by
      unfold pyInt
      rw [digits_nosign _ hd]
      rfl
    unfold intE at h
    rw [hp] at h
    cases hdp : digitPart (strip s) with
    | none => rw [hdp] at h; cases h
    | some m => rw [hdp] at h; cases h; exact Int.natCast_nonneg m
  · cases h

theorem fieldE_err (ws : List Str) (i : Nat) (k : Fld) : ErrIn [.index, .value] (fieldE ws i k) := by
  unfold fieldE
  cases h : wordE ws i with
  | error e => exact errIn_error ((wordE_err ws i).mono (by decide) e h)
  | ok w =>
    cases k with
    | str => exact errIn_ok
    | int =>
      dsimp only
      cases h2 : intE w with
      | error e => exact errIn_error ((intE_err w).mono (by decide) e h2)
      | ok _ => exact errIn_ok
    | float => exact (floatE_err w).mono (by decide)

theorem fieldsE_err (ws : List Str) : ∀ fs : List (Nat × Fld), ErrIn [.index, .value] (fieldsE ws fs)
  | [] => errIn_ok
  | (i, k) :: r => by
    unfold fieldsE
    cases h : fieldE ws i k with
    | error e => exact errIn_error (fieldE_err ws i k e h)
    | ok _ => exact fieldsE_err ws r

/-- the classes `charmm.load_one` can raise -/
def crdClasses : List Cls := [.load, .stopIter, .value, .memory, .index]

theorem crd_raises : Raises crdClasses loadOne := by
  have hn : Raises crdClasses nextLine := raises_next (by decide)
  unfold loadOne helper
  exact raises_bind (titleSec_raises (by decide)) fun _ =>
    raises_bind hn fun _ =>
    raises_stmt (countE_err _) (by decide) fun _ =>
    raises_stmt (allocE_err _) (by decide) fun _ =>
    raises_bind (raises_repeatN (raises_bind hn fun _ => raises_liftE ((fieldsE_err _ _).mono (by decide))) _)
      fun _ => raises_pure _ _

theorem crd_good : Good loadOne := by
  unfold loadOne helper
  refine good_bind titleSec_good fun _ => good_read fun _ =>
    good_stmt fun _ => good_stmt fun _ =>
    good_bind (good_lines _) fun _ => good_pure _

end Iodata.Rd.Crd
