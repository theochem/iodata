/- Helper lemmas and specification-side definitions for C17 (`Iodata/Props/C17.lean`). -/
import Iodata.Model.Select
import Mathlib.Data.List.Basic

namespace Iodata.Select

lemma find?_key_eq_none {α κ : Type} [BEq κ] [LawfulBEq κ] (key : α → κ) (l : List α) (k : κ) :
    l.find? (fun e => key e == k) = none ↔ ∀ e ∈ l, key e ≠ k := by
  simp [List.find?_eq_none]

lemma find?_key_eq_some {α κ : Type} [BEq κ] [LawfulBEq κ] {key : α → κ} {l : List α} {k : κ} {e : α}
    (h : l.find? (fun e => key e == k) = some e) : e ∈ l ∧ key e = k :=
  ⟨List.mem_of_find?_eq_some h, by simpa using List.find?_some h⟩

/-- What `fnmatch` means for patterns of literals and `*`: `*` stands for any (possibly empty) run of
characters, every other pattern character for itself. -/
inductive GlobMatch : Str → Str → Prop
  | nil : GlobMatch [] []
  | star (p s1 s2 s : Str) : s = s1 ++ s2 → GlobMatch p s2 → GlobMatch ('*' :: p) s
  | lit (c : Char) (p s : Str) : c ≠ '*' → GlobMatch p s → GlobMatch (c :: p) (c :: s)

lemma mem_suffixes (t s : Str) : t ∈ suffixes s ↔ ∃ s1, s = s1 ++ t := by
  induction s with
  | nil =>
    simp only [suffixes, List.mem_singleton]
    constructor
    · rintro rfl; exact ⟨[], rfl⟩
    · rintro ⟨s1, h⟩
      have := List.append_eq_nil_iff.mp h.symm
      exact this.2
  | cons c s ih =>
    simp only [suffixes, List.mem_cons, ih]
    constructor
    · rintro (rfl | ⟨s1, rfl⟩)
      · exact ⟨[], rfl⟩
      · exact ⟨c :: s1, rfl⟩
    · rintro ⟨s1, h⟩
      cases s1 with
      | nil => left; simpa using h.symm
      | cons d s1 =>
        right
        simp only [List.cons_append, List.cons.injEq] at h
        exact ⟨s1, h.2⟩

lemma glob_nil (s : Str) : glob [] s = s.isEmpty := by
  unfold glob; rfl

lemma glob_star (p s : Str) : glob ('*' :: p) s = (suffixes s).any (glob p) := by
  rw [glob]

lemma glob_lit (c : Char) (hc : c ≠ '*') (p s : Str) :
    glob (c :: p) s = match s with
      | [] => false
      | d :: s' => c == d && glob p s' := by
  conv_lhs => unfold glob
  split
  · rename_i h; cases h
  · rename_i h; simp only [List.cons.injEq] at h; exact absurd h.1 hc
  · rename_i h; simp only [List.cons.injEq] at h; obtain ⟨⟨rfl, rfl⟩, rfl⟩ := h; rfl

lemma glob_iff (p s : Str) : glob p s = true ↔ GlobMatch p s := by
  induction p generalizing s with
  | nil =>
    rw [glob_nil]
    constructor
    · intro h
      cases s with
      | nil => exact .nil
      | cons _ _ => simp at h
    · intro h; cases h; rfl
  | cons c p ih =>
    by_cases hc : c = '*'
    · subst hc
      rw [glob_star, List.any_eq_true]
      constructor
      · rintro ⟨t, ht, hg⟩
        obtain ⟨s1, rfl⟩ := (mem_suffixes t s).mp ht
        exact .star p s1 t _ rfl ((ih t).mp hg)
      · intro h
        cases h with
        | star _ s1 s2 _ hs h' => exact ⟨s2, (mem_suffixes _ _).mpr ⟨s1, hs⟩, (ih s2).mpr h'⟩
        | lit _ _ _ hne _ => exact absurd rfl hne
    · rw [glob_lit c hc]
      cases s with
      | nil =>
        simp only [Bool.false_eq_true, false_iff]
        intro h; cases h
        case star => exact hc rfl
      | cons d s' =>
        simp only [Bool.and_eq_true, beq_iff_eq]
        constructor
        · rintro ⟨rfl, hg⟩
          exact .lit c p s' hc ((ih s').mp hg)
        · intro h
          cases h with
          | star => exact absurd rfl hc
          | lit _ _ _ _ h' => exact ⟨rfl, (ih s').mpr h'⟩

lemma matches_supports_iff (m : Module) (base attr : Str) :
    (matchesAny m base && supports m attr) = true ↔ (∃ p ∈ m.patterns, GlobMatch p base) ∧ attr ∈ m.attrs := by
  simp only [matchesAny, supports, Bool.and_eq_true, List.any_eq_true, List.contains_iff_mem, glob_iff]

/-- The hypothesis compares the two tables in order: both are printed by one walk over `FORMAT_MODULES`. -/
lemma declared_entries_of_eq (reg : List Module) (decl : List Declared)
    (h : reg.flatMap (fun m => m.attrs.map fun a => (m.name, a)) = decl.map fun d => (d.module, d.entry)) :
    (∀ m ∈ reg, ∀ a ∈ m.attrs, ∃ d ∈ decl, d.module = m.name ∧ d.entry = a) ∧
    (∀ d ∈ decl, ∃ m ∈ reg, m.name = d.module ∧ d.entry ∈ m.attrs) := by
  constructor
  · intro m hm a ha
    have : (m.name, a) ∈ decl.map fun d => (d.module, d.entry) :=
      h ▸ List.mem_flatMap.mpr ⟨m, hm, List.mem_map.mpr ⟨a, ha, rfl⟩⟩
    obtain ⟨d, hd, he⟩ := List.mem_map.mp this
    exact ⟨d, hd, Prod.mk.inj he⟩
  · intro d hd
    have : (d.module, d.entry) ∈ reg.flatMap fun m => m.attrs.map fun a => (m.name, a) :=
      h ▸ List.mem_map_of_mem hd
    obtain ⟨m, hm, hma⟩ := List.mem_flatMap.mp this
    obtain ⟨a, ha, he⟩ := List.mem_map.mp hma
    exact ⟨m, hm, (Prod.mk.inj he).1, (Prod.mk.inj he).2 ▸ ha⟩

end Iodata.Select
