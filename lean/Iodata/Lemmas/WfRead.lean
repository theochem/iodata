/- C01: the global form of `convert_conventions`, density matrices under a signed permutation, and the readers
   of the Molden, Molekel and FCHK file models undoing their writers. -/
import Iodata.Lemmas.Wf
import Iodata.Model.WfRead

namespace Iodata.Wf
open Iodata.Conv

theorem cvOf_of_lookup {t : Table} {k : Key} {c : List Label} (h : lookup t k = .ok c) :
    cvOf t k = c.map parse := by
  unfold lookup at h
  unfold cvOf
  cases hf : t.find? (fun e => e.1 == k) with
  | none => simp [hf] at h
  | some e => simp [hf] at h; simp [h]

theorem convBasis_apply (t1 t2 : Table) : ∀ (shells : List Shell) (r : List (Nat × Int)),
    convBasis t1 t2 (keysOf shells) false = .ok r →
    (∀ s ∈ shells, Compatible (cvOf t1 s.key) (cvOf t2 s.key)) ∧
    r.length = nfun (cvOf t2) shells ∧ nfun (cvOf t1) shells = nfun (cvOf t2) shells ∧
    ∀ (coeffs : List Int), apply r coeffs = convert (cvOf t1) (cvOf t2) shells coeffs
  | [], r, h => by cases h; simp [convert, apply, nfun]
  | s :: ss, r, h => by
    obtain ⟨c1, c2, rest, hl1, hl2, hc, hb, rfl⟩ :=
      convBasis_cons_ok (show convBasis t1 t2 (s.key :: keysOf ss) false = .ok r from h)
    obtain ⟨ihc, ihlen, ihn, ihapp⟩ := convBasis_apply t1 t2 ss rest hb
    have e1 := cvOf_of_lookup hl1
    have e2 := cvOf_of_lookup hl2
    have hn : c1.length = c2.length := by simpa using hc.1
    refine ⟨?_, ?_, ?_, ?_⟩
    · intro t ht
      rcases List.mem_cons.mp ht with rfl | ht
      · rw [e1, e2]; exact hc
      · exact ihc t ht
    · simp only [nfun, List.map_cons, List.sum_cons] at ihlen ⊢
      simp [e2, ihlen]
    · simp only [nfun, List.map_cons, List.sum_cons] at ihn ⊢
      simp [e1, e2, hn, ihn]
    · intro coeffs
      rw [apply_shell_block hc]
      simp only [convert]
      rw [e1, e2, List.length_map, ihapp]

theorem sum_map_const_mul {α : Type} (c : Int) (f : α → Int) : ∀ (l : List α),
    (l.map fun a => c * f a).sum = c * (l.map f).sum
  | [] => by simp
  | a :: l => by simp [sum_map_const_mul c f l, Int.mul_add]

/-- `D` has `n` rows of `n` entries -/
def Square (D : List (List Int)) (n : Nat) : Prop := D.length = n ∧ ∀ row ∈ D, row.length = n

theorem Square.row {D : List (List Int)} {n : Nat} (h : Square D n) {i : Nat} (hi : i < n) :
    (D.getD i []).length = n := by
  have : i < D.length := h.1 ▸ hi
  rw [List.getD_eq_getElem?_getD, List.getElem?_eq_getElem this]
  exact h.2 _ (List.getElem_mem this)

theorem Square.eq_map {M : List (List Int)} {n : Nat} (h : Square M n) :
    M = (List.range n).map fun i => (List.range n).map fun j => (M.getD i []).getD j 0 := by
  conv => lhs; rw [eq_map_getD_range M [], h.1]
  apply List.map_congr_left
  intro i hi
  conv => lhs; rw [eq_map_getD_range (M.getD i []) 0, h.row (List.mem_range.mp hi)]

theorem bilin_range (D : List (List Int)) (x y : List Int) (n : Nat) (hD : Square D n)
    (hx : x.length = n) (hy : y.length = n) :
    bilin D x y = ((List.range n).map fun i =>
      x.getD i 0 * ((List.range n).map fun j => (D.getD i []).getD j 0 * y.getD j 0).sum).sum := by
  unfold bilin
  rw [zip_map_range _ D x n hD.1 hx [] 0]
  congr 1
  apply List.map_congr_left
  intro i hi
  have hi' : i < n := by simpa using hi
  simp only
  rw [zip_map_range _ (D.getD i []) y n (hD.row hi') hy 0 0]

theorem sq_cancel {s : Int} (hs : s * s = 1) (a b : Int) : s * a * (s * b) = a * b := by
  rw [show s * a * (s * b) = s * s * (a * b) by ac_rfl, hs, Int.one_mul]

theorem bilin_conv (r : List (Nat × Int)) (n : Nat) (h : SignedPerm r n) (D : List (List Int))
    (x y : List Int) :
    bilin (convMatrix r D) (apply r x) (apply r y)
      = ((List.range n).map fun i =>
          x.getD i 0 * ((List.range n).map fun j => (D.getD i []).getD j 0 * y.getD j 0).sum).sum := by
  unfold bilin convMatrix apply
  rw [List.zip_map', List.map_map,
    ← h.sum fun i => x.getD i 0 * ((List.range n).map fun j => (D.getD i []).getD j 0 * y.getD j 0).sum]
  congr 1
  apply List.map_congr_left
  intro p hp
  -- in the row of `p` every term carries `p.2` once and the sign of its column twice
  have row : ∀ q ∈ r, ∀ d b : Int, p.2 * q.2 * d * (q.2 * b) = p.2 * (d * b) := fun q hq d b => by
    rw [show p.2 * q.2 * d * (q.2 * b) = q.2 * q.2 * (p.2 * (d * b)) by ac_rfl, h.sign q hq, Int.one_mul]
  simp only [Function.comp]
  rw [List.zip_map', List.map_map]
  simp only [Function.comp_def]
  rw [List.map_congr_left fun q hq => row q hq _ _, sum_map_const_mul,
    h.sum fun j => (D.getD p.1 []).getD j 0 * y.getD j 0, sq_cancel (h.sign p hp)]

/-- the shell `gtoShells` makes of one `[GTO]` entry `f` of the centre block numbered `c` -/
def reShell (pure : List Nat) (c : Nat) (f : FShell) : Shell :=
  { center := c - 1, l := f.1, kind := if f.1 ∈ pure then 'p' else 'c', prims := f.2 }

theorem gtoShells_cons (pure : List Nat) (s : Shell) (ss : List Shell) :
    gtoShells pure (gtoBlocks (s :: ss))
      = reShell pure (s.center + 1) (s.l, s.prims) :: gtoShells pure (gtoBlocks ss) := by
  simp only [gtoBlocks]
  cases gtoBlocks ss with
  | nil => rfl
  | cons b bs =>
    dsimp only
    split
    · rename_i h
      rw [← h]; rfl
    · rfl

theorem gtoShells_gtoBlocks (pure : List Nat) : ∀ (ss : List Shell),
    (∀ s ∈ ss, s.kind = if s.l ∈ pure then 'p' else 'c') → gtoShells pure (gtoBlocks ss) = ss
  | [], _ => rfl
  | s :: ss, h => by
    rw [gtoShells_cons, gtoShells_gtoBlocks pure ss (fun t ht => h t (by simp [ht]))]
    congr 1
    show Shell.mk (s.center + 1 - 1) s.l (if s.l ∈ pure then 'p' else 'c') s.prims = s
    rw [← h s (by simp), Nat.add_sub_cancel]

theorem not_mixed {shells : List Shell} (h : mixed shells = false) :
    ∀ s ∈ shells, kindOfL shells s.l = some s.kind := by
  intro s hs
  unfold mixed at h
  rw [List.any_eq_false] at h
  have := h s hs
  simpa using this

theorem mem_sortByCenter (t : Shell) (ss : List Shell) (h : t ∈ sortByCenter ss) : t ∈ ss :=
  (sortByCenter_perm ss).mem_iff.mp h

theorem convBasis_mem (t1 t2 : Table) : ∀ (keys : List Key) (r : List (Nat × Int)),
    convBasis t1 t2 keys false = .ok r → ∀ k ∈ keys, ∃ c, (k, c) ∈ t2
  | [], _, _, k, hk => by simp at hk
  | k :: ks, r, h, k', hk' => by
    obtain ⟨c1, c2, rest, _, hl2, _, hb, _⟩ := convBasis_cons_ok h
    rcases List.mem_cons.mp hk' with rfl | hk'
    · exact ⟨c2, lookup_ok_mem hl2⟩
    · exact convBasis_mem t1 t2 ks rest hb k' hk'

/-- a key of the Molden / Molekel tables: `l ≤ 5`, Cartesian or pure, s and p shells Cartesian -/
def keyOK (k : Key) : Bool := decide (k.1 ≤ 5) && (k.2 == 'c' || k.2 == 'p') && (decide (2 ≤ k.1) || k.2 == 'c')

/-- a header-table entry is right when, for each of d, f, g, h present, the reader's pure set
contains that angular momentum exactly when the kind is pure -/
def hdrEntryOK (e : List (Option Char) × Option (List Tag)) : Bool :=
  match e.2 with
  | none => true
  | some tags =>
    (List.range 4).all fun i =>
      match e.1.getD i none with
      | none => true
      | some k => (k == 'p') == (pureOf tags).contains (i + 2)

theorem pureOf_range (tags : List Tag) : ∀ l ∈ pureOf tags, 2 ≤ l ∧ l ≤ 5 := by
  intro l hl
  simp only [pureOf, List.mem_flatMap] at hl
  obtain ⟨t, _, ht⟩ := hl
  cases t <;> simp [Tag.pure] at ht <;> omega

theorem hdrLookup_mem {tab : HdrTable} {k : List (Option Char)} {tags : List Tag}
    (h : hdrLookup tab k = some tags) : (k, some tags) ∈ tab := by
  unfold hdrLookup at h
  cases hf : tab.find? (fun e => e.1 == k) with
  | none => simp [hf] at h
  | some e =>
    have he : e.2 = some tags := by simpa [hf] using h
    exact he ▸ find?_key hf

theorem kinds_of_header (tab : HdrTable) (htab : tab.all hdrEntryOK = true) (shells : List Shell)
    (hmix : mixed shells = false) (tags : List Tag) (hh : hdrLookup tab (hdrKey shells) = some tags)
    (hkeys : ∀ s ∈ shells, keyOK s.key = true) :
    ∀ s ∈ shells, s.kind = if s.l ∈ pureOf tags then 'p' else 'c' := by
  intro s hs
  have hk := hkeys s hs
  simp only [keyOK, Shell.key, Bool.and_eq_true, Bool.or_eq_true, beq_iff_eq] at hk
  obtain ⟨⟨hl5, hcp⟩, h2⟩ := hk
  replace hl5 := of_decide_eq_true hl5
  replace h2 := h2.imp_left of_decide_eq_true
  have hent := List.all_eq_true.mp htab _ (hdrLookup_mem hh)
  simp only [hdrEntryOK, List.all_eq_true, List.mem_range] at hent
  by_cases hl2 : 2 ≤ s.l
  · have hi := hent (s.l - 2) (by omega)
    have hget : (hdrKey shells).getD (s.l - 2) none = some s.kind := by
      have hk := not_mixed hmix s hs
      have : s.l = 2 ∨ s.l = 3 ∨ s.l = 4 ∨ s.l = 5 := by omega
      rcases this with h | h | h | h <;> simp [hdrKey, h, ← hk]
    rw [hget, show s.l - 2 + 2 = s.l by omega] at hi
    have hi' : s.kind = 'p' ↔ s.l ∈ pureOf tags := by
      rw [beq_iff_eq, Bool.eq_iff_iff] at hi; simpa using hi
    by_cases hp : s.l ∈ pureOf tags
    · rw [if_pos hp]; exact hi'.mpr hp
    · rw [if_neg hp]; exact hcp.resolve_right fun h => hp (hi'.mp h)
  · rw [if_neg fun hm => hl2 (pureOf_range tags _ hm).1]
    exact h2.resolve_left hl2

theorem moldenWrite_some {tab : HdrTable} {t1 tM : Table} {shells : List Shell} {coeffs : List Int} {f : MoldenFile}
    (hw : moldenWrite tab t1 tM shells coeffs = some f) :
    mixed shells = false ∧ hdrLookup tab (hdrKey shells) = some f.tags ∧
      ∃ r, convBasis t1 tM (keysOf shells) false = .ok r ∧
        f.gto = gtoBlocks ((sortPairs (blocks (cvOf tM) shells (apply r coeffs))).map (·.1)) ∧
        f.mo = (sortPairs (blocks (cvOf tM) shells (apply r coeffs))).flatMap (·.2) := by
  unfold moldenWrite at hw
  split at hw
  · cases hw
  · rename_i hm
    cases hh : hdrLookup tab (hdrKey shells) with
    | none => simp [hh] at hw
    | some tags =>
      simp only [hh, convertGlobal] at hw
      cases hb : convBasis t1 tM (keysOf shells) false with
      | error e => simp [hb] at hw
      | ok r =>
        simp only [hb, Option.some.injEq] at hw
        subst hw
        exact ⟨by simpa using hm, rfl, r, rfl, rfl, rfl⟩

theorem molden_roundtrip (tab : HdrTable) (t1 tM : Table) (shells : List Shell) (coeffs : List Int)
    (f : MoldenFile) (hw : moldenWrite tab t1 tM shells coeffs = some f)
    (hkind : ∀ s ∈ shells, s.kind = if s.l ∈ pureOf f.tags then 'p' else 'c') :
    ∃ co, moldenLoad (cvOf tM) f = some (sortByCenter shells, co) ∧
      ∀ κ, den (cvOf tM) (sortByCenter shells) co κ = den (cvOf t1) shells coeffs κ := by
  obtain ⟨_, _, r, hb, hgto, hmo⟩ := moldenWrite_some hw
  obtain ⟨hc, _, _, happ⟩ := convBasis_apply t1 tM shells r hb
  obtain ⟨hfst, hlen, hden⟩ := sortedRows_spec (cvOf t1) (cvOf tM) shells hc coeffs
  rw [happ, hfst] at hgto
  rw [happ] at hmo
  refine ⟨f.mo, ?_, fun κ => hmo ▸ hden κ⟩
  unfold moldenLoad
  simp only
  rw [hgto, gtoShells_gtoBlocks _ _ (fun s hs => hkind s (mem_sortByCenter s shells hs)), nfun_sort,
    if_pos (hmo ▸ hlen)]

/-- centres ascending, starting at or after `last` -/
def ascFrom : Nat → List Shell → Prop
  | _, [] => True
  | last, s :: ss => last ≤ s.center ∧ ascFrom s.center ss

theorem mklRead_seps (cvM : Cv) (k : Nat) : ∀ (c : Nat) (rest : List MklItem),
    mklReadFrom cvM c (List.replicate k .sep ++ rest) = mklReadFrom cvM (c + k) rest := by
  induction k with
  | zero => intro c rest; simp
  | succ k ih =>
    intro c rest
    simp only [List.replicate_succ, List.cons_append, mklReadFrom]
    rw [ih]; congr 1; omega

theorem mklRead_items (cvM : Cv) : ∀ (ss : List Shell) (last : Nat), ascFrom last ss →
    (∀ s ∈ ss, mklKind cvM s.l (cvM s.key).length = some s.kind) →
    mklReadFrom cvM last (mklItemsFrom cvM last ss) = some ss
  | [], _, _, _ => by simp [mklItemsFrom, mklReadFrom]
  | s :: ss, last, hasc, hk => by
    obtain ⟨h1, h2⟩ := hasc
    simp only [mklItemsFrom]
    rw [mklRead_seps]
    have e : last + (s.center - last) = s.center := by omega
    simp only [e, mklReadFrom, hk s (by simp)]
    rw [mklRead_items cvM ss s.center h2 (fun t ht => hk t (by simp [ht]))]

theorem insert_ge (s : Shell) (n : Nat) : ∀ (ts : List Shell), (∀ t ∈ ts, n ≤ t.center) → n ≤ s.center →
    ∀ t ∈ insertByCenter s ts, n ≤ t.center := by
  intro ts h hs t ht
  rcases List.mem_cons.mp ((insertByCenter_perm s ts).mem_iff.mp ht) with rfl | h'
  · exact hs
  · exact h t h'

theorem asc_insert (s : Shell) : ∀ (ts : List Shell) (last : Nat), ascFrom last ts → last ≤ s.center →
    ascFrom last (insertByCenter s ts)
  | [], last, _, hs => by simp [insertByCenter, ascFrom, hs]
  | t :: ts, last, h, hs => by
    obtain ⟨h1, h2⟩ := h
    simp only [insertByCenter]
    split
    · rename_i hle
      exact ⟨hs, hle, h2⟩
    · rename_i hle
      exact ⟨h1, asc_insert s ts t.center h2 (by omega)⟩

theorem asc_sort : ∀ (ss : List Shell), ascFrom 0 (sortByCenter ss)
  | [] => trivial
  | s :: ss => asc_insert s _ 0 (asc_sort ss) (Nat.zero_le _)

theorem cols_of_rows (n : Nat) (ch : List (List Int)) (h : ∀ c ∈ ch, c.length = n) :
    ((List.range ch.length).map fun ic => (rowsOfCols n ch).map fun row => row.getD ic 0) = ch := by
  conv => rhs; rw [eq_map_getD_range ch []]
  apply List.map_congr_left
  intro ic hic
  rw [List.mem_range] at hic
  have hlen : (ch.getD ic []).length = n := by
    rw [List.getD_eq_getElem?_getD, List.getElem?_eq_getElem hic]; exact h _ (List.getElem_mem _)
  conv => rhs; rw [eq_map_getD_range (ch.getD ic []) 0, hlen]
  simp only [rowsOfCols, List.map_map]
  apply List.map_congr_left
  intro i _
  simp [List.getD_eq_getElem?_getD, hic]

theorem mklReadCoeffs_cons (n : Nat) (ch : List (List Int)) (h : ∀ c ∈ ch, c.length = n)
    (bs : List (Nat × List (List Int))) (cs : List (List Int)) (hbs : mklReadCoeffs n bs = some cs) :
    mklReadCoeffs n ((ch.length, rowsOfCols n ch) :: bs) = some (ch ++ cs) := by
  have hrows : (rowsOfCols n ch).length = n := by simp [rowsOfCols]
  have hall : (rowsOfCols n ch).all (fun row => row.length == ch.length) = true := by simp [rowsOfCols]
  simp only [mklReadCoeffs, hrows, hall, hbs, and_self, if_true, cols_of_rows n ch h]

theorem mklRead_blocks (n : Nat) : ∀ (f : Nat) (cols : List (List Int)), cols.length ≤ f →
    (∀ c ∈ cols, c.length = n) →
    mklReadCoeffs n ((chunksF 5 f cols).map fun ch => (ch.length, rowsOfCols n ch)) = some cols
  | 0, cols, hf, _ => by
    rw [List.eq_nil_of_length_eq_zero (Nat.le_zero.mp hf)]; rfl
  | f + 1, cols, hf, h => by
    simp only [chunksF]
    split
    · rename_i he
      rw [List.isEmpty_iff.mp he]; rfl
    · rename_i he
      have hpos : 0 < cols.length := List.length_pos_iff.mpr (by simpa using he)
      rw [List.map_cons, mklReadCoeffs_cons n _ (fun c hc => h c (List.mem_of_mem_take hc)) _ _
        (mklRead_blocks n f (cols.drop 5) (by simp; omega) (fun c hc => h c (List.mem_of_mem_drop hc))),
        List.take_append_drop]

theorem mklRead_coeffBlocks (n : Nat) (cols : List (List Int)) (h : ∀ c ∈ cols, c.length = n) :
    mklReadCoeffs n (mklCoeffBlocks n cols) = some cols := by
  unfold mklCoeffBlocks chunks
  exact mklRead_blocks n cols.length cols (Nat.le_refl _) h

theorem mklWrite_some {t1 tM : Table} {shells : List Shell} {cols : List (List Int)} {f : MklFile}
    (hw : mklWrite t1 tM shells cols = some f) :
    ∃ r, convBasis t1 tM (keysOf shells) false = .ok r ∧
      f = { basis := mklItemsFrom (cvOf tM) 0 (sortByCenter shells),
            coeff := mklCoeffBlocks (nfun (cvOf tM) shells)
              (cols.map fun c => (sortPairs (blocks (cvOf tM) shells (apply r c))).flatMap (·.2)) } := by
  unfold mklWrite at hw
  cases hb : convBasis t1 tM (keysOf shells) false with
  | error e => simp [hb] at hw
  | ok r => exact ⟨r, rfl, by simpa [hb] using hw.symm⟩

/-- reading the lower triangle back: row `k` of the rows from `i` on keeps its first `i + k + 1` entries -/
theorem untril_tril : ∀ (M : List (List Int)) (i f : Nat), (∀ row ∈ M, i + M.length ≤ row.length) →
    (trilFrom i M).length ≤ f →
    untrilFrom i f (trilFrom i M) = M.mapIdx fun k row => row.take (i + k + 1)
  | [], i, f, _, _ => by
    cases f <;> simp [trilFrom, untrilFrom]
  | row :: rest, i, f, h, hf => by
    have hrow : i + (rest.length + 1) ≤ row.length := by simpa using h row (by simp)
    have hlen : (row.take (i + 1)).length = i + 1 := by rw [List.length_take]; omega
    simp only [trilFrom, List.length_append, hlen] at hf
    cases f with
    | zero => omega
    | succ f =>
      simp only [trilFrom, untrilFrom, List.mapIdx_cons]
      have hne : (row.take (i + 1) ++ trilFrom (i + 1) rest).isEmpty = false := by
        cases hr : row.take (i + 1) with
        | nil => simp [hr] at hlen
        | cons a b => simp
      simp only [hne, Bool.false_eq_true, if_false]
      rw [List.take_left' hlen, List.drop_left' hlen,
        untril_tril rest (i + 1) f (fun r hr => by have := h r (by simp [hr]); simp at this; omega) (by omega)]
      simp only [Nat.add_zero, Nat.add_right_comm i 1]
      rfl

/-- entry `(i, j)` equals entry `(j, i)`, read with `getD` (so out-of-range entries count as `0`) -/
def Symm (M : List (List Int)) : Prop :=
  ∀ i j, (M.getD i []).getD j 0 = (M.getD j []).getD i 0

theorem dense_tril (M : List (List Int)) (n : Nat) (hM : Square M n) (hs : Symm M) :
    triangleToDense (tril M) = M := by
  unfold triangleToDense tril
  rw [untril_tril M 0 _ (fun row hr => by rw [hM.2 row hr, hM.1]; omega) (Nat.le_refl _)]
  unfold dense
  rw [List.length_mapIdx, hM.1]
  conv => rhs; rw [hM.eq_map]
  apply List.map_congr_left
  intro i hi
  apply List.map_congr_left
  intro j hj
  rw [List.mem_range] at hi hj
  split
  · rw [getD_mapIdx _ M (hM.1 ▸ hi), getD_take _ _ (by omega)]
  · rw [getD_mapIdx _ M (hM.1 ▸ hj), getD_take _ _ (by omega), hs j i]

theorem convMatrix_square (r : List (Nat × Int)) (D : List (List Int)) : Square (convMatrix r D) r.length := by
  constructor
  · simp [convMatrix]
  · intro row hrow
    simp only [convMatrix, List.mem_map] at hrow
    obtain ⟨p, _, rfl⟩ := hrow
    simp

theorem convMatrix_symm (r : List (Nat × Int)) (D : List (List Int)) (hs : Symm D) : Symm (convMatrix r D) := by
  intro i j
  simp only [Symm, List.getD_eq_getElem?_getD] at hs
  simp only [convMatrix, List.getD_eq_getElem?_getD, List.getElem?_map]
  cases hi : r[i]? <;> cases hj : r[j]? <;> simp [hi, hj]
  rw [hs, Int.mul_comm _ (Prod.snd _)]

theorem chunks_flatten (n : Nat) (hn : 0 < n) : ∀ (cols : List (List Int)) (f : Nat), cols.length ≤ f →
    (∀ c ∈ cols, c.length = n) → chunksF n f cols.flatten = cols
  | [], f, _, _ => by cases f <;> simp [chunksF]
  | c :: cs, 0, hf, _ => by simp at hf
  | c :: cs, f + 1, hf, h => by
    have hc := h c (by simp)
    have hne : (c ++ cs.flatten).isEmpty = false := by
      cases c with
      | nil => simp at hc; omega
      | cons a b => simp
    simp only [List.flatten_cons, chunksF, hne, Bool.false_eq_true, if_false]
    rw [List.take_left' hc, List.drop_left' hc,
      chunks_flatten n hn cs f (by simpa using hf) (fun d hd => h d (by simp [hd]))]

theorem fchkRead_coeffs (n : Nat) (hn : 0 < n) (cols : List (List Int)) (h : ∀ c ∈ cols, c.length = n) :
    fchkReadCoeffs n (fchkCoeffs cols) = cols := by
  have hlen : cols.length ≤ cols.flatten.length := by
    induction cols with
    | nil => simp
    | cons c cs ih =>
      have := h c (by simp)
      have := ih fun d hd => h d (by simp [hd])
      simp only [List.length_cons, List.flatten_cons, List.length_append]; omega
  exact chunks_flatten n hn cols _ hlen h

/-- a shell FCHK can express: one Cartesian contraction, one pure contraction with `l ≥ 2`, or SP -/
def FchkOK (g : GShell) : Prop :=
  (∃ l, g.cons = [(l, 'c')] ∧ ∀ p ∈ g.prims, ∃ a, p.2 = [a]) ∨
  (∃ l, 2 ≤ l ∧ g.cons = [(l, 'p')] ∧ ∀ p ∈ g.prims, ∃ a, p.2 = [a]) ∨
  (g.cons = [(0, 'c'), (1, 'c')] ∧ ∀ p ∈ g.prims, ∃ a b, p.2 = [a, b])

/-- the `Shell types` code the writer emits for `g`; the `0` stands in where `fchkType` refuses, which `FchkOK`
excludes (`fchkType_ok`) -/
def tyOf (g : GShell) : Int := (fchkType g).getD 0

theorem fchkType_ok {g : GShell} (h : FchkOK g) : fchkType g = some (tyOf g) := by
  unfold tyOf
  rcases h with ⟨l, hc, _⟩ | ⟨l, _, hc, _⟩ | ⟨hc, _⟩ <;> simp [fchkType, hc]

theorem allSome_types : ∀ (gs : List GShell), (∀ g ∈ gs, FchkOK g) →
    allSome (gs.map fchkType) = some (gs.map tyOf)
  | [], _ => rfl
  | g :: gs, h => by
    simp only [List.map_cons, fchkType_ok (h g (by simp)), allSome,
      allSome_types gs (fun k hk => h k (by simp [hk]))]
    rfl

theorem map_zip_prims1 (prims : List (Nat × List Int)) (h : ∀ p ∈ prims, ∃ a, p.2 = [a]) :
    ((prims.map (·.1)).zip (prims.map fun p => p.2.getD 0 0)).map (fun p => (p.1, [p.2])) = prims := by
  rw [List.zip_map', List.map_map]
  refine (List.map_congr_left fun p hp => ?_).trans (List.map_id prims)
  obtain ⟨a, ha⟩ := h p hp
  obtain ⟨e, cs⟩ := p
  cases ha; rfl

theorem map_zip_prims2 (prims : List (Nat × List Int)) (h : ∀ p ∈ prims, ∃ a b, p.2 = [a, b]) :
    ((prims.map (·.1)).zip ((prims.map fun p => p.2.getD 0 0).zip (prims.map fun p => p.2.getD 1 0))).map
      (fun p => (p.1, [p.2.1, p.2.2])) = prims := by
  rw [List.zip_map', List.zip_map', List.map_map]
  refine (List.map_congr_left fun p hp => ?_).trans (List.map_id prims)
  obtain ⟨a, b, ha⟩ := h p hp
  obtain ⟨e, cs⟩ := p
  cases ha; rfl

theorem fchkShell_ok (g : GShell) (h : FchkOK g) (E : List Nat) (C1 C2 : List Int)
    (hc2 : tyOf g = -1 → C2.take g.prims.length = g.prims.map fun p => p.2.getD 1 0) :
    fchkShell (tyOf g) (g.center + 1) g.prims.length (g.prims.map (·.1) ++ E)
      ((g.prims.map fun p => p.2.getD 0 0) ++ C1) C2 = g := by
  obtain ⟨center, cons, prims⟩ := g
  have l1 : (prims.map (·.1)).length = prims.length := List.length_map _
  have l2 : (prims.map fun p => p.2.getD 0 0).length = prims.length := List.length_map _
  dsimp only at h hc2 ⊢
  rcases h with ⟨l, rfl, hp⟩ | ⟨l, hl, rfl, hp⟩ | ⟨rfl, hp⟩
  · have ht : tyOf ⟨center, [(l, 'c')], prims⟩ = (l : Int) := rfl
    rw [ht, fchkShell, if_neg (by omega), List.take_left' l1, List.take_left' l2, map_zip_prims1 _ hp,
      Nat.add_sub_cancel, Int.natAbs_natCast, if_neg (by omega)]
  · have ht : tyOf ⟨center, [(l, 'p')], prims⟩ = -(l : Int) := rfl
    rw [ht, fchkShell, if_neg (by omega), List.take_left' l1, List.take_left' l2, map_zip_prims1 _ hp,
      Nat.add_sub_cancel, Int.natAbs_neg, Int.natAbs_natCast, if_pos (by omega)]
  · have ht : tyOf ⟨center, [(0, 'c'), (1, 'c')], prims⟩ = -1 := rfl
    rw [ht, fchkShell, if_pos rfl, List.take_left' l1, List.take_left' l2, hc2 ht,
      map_zip_prims2 _ hp, Nat.add_sub_cancel]

/-- the invariant on the `P(S=P)` array while the reader advances: it is the writer's array for the
remaining shells, or no remaining shell is SP (and the array is not looked at) -/
def C2Inv (gs : List GShell) (C2 : List Int) : Prop :=
  C2 = fchkC2 gs ∨ ∀ g ∈ gs, tyOf g ≠ -1

theorem fchkReadL_ok : ∀ (gs : List GShell) (C2 : List Int), (∀ g ∈ gs, FchkOK g) → C2Inv gs C2 →
    fchkReadL (gs.map tyOf) (gs.map (·.center + 1)) (gs.map (·.prims.length))
      (gs.flatMap fun g => g.prims.map (·.1)) (gs.flatMap fun g => g.prims.map fun p => p.2.getD 0 0) C2 = gs
  | [], _, _, _ => by simp [fchkReadL]
  | g :: gs, C2, h, hinv => by
    have hg := h g (by simp)
    have l1 : (g.prims.map (·.1)).length = g.prims.length := List.length_map _
    have l2 : (g.prims.map fun p => p.2.getD 0 0).length = g.prims.length := List.length_map _
    -- the first `g.prims.length` entries of the writer's array belong to `g`
    have hblock : (if fchkType g = some (-1) then g.prims.map fun p => p.2.getD 1 0
        else List.replicate g.prims.length 0).length = g.prims.length := by
      split <;> simp
    have hc2 : tyOf g = -1 → C2.take g.prims.length = g.prims.map fun p => p.2.getD 1 0 := by
      intro ht
      rcases hinv with rfl | hno
      · rw [fchkC2, List.flatMap_cons, List.take_left' hblock, fchkType_ok hg, ht, if_pos rfl]
      · exact absurd ht (hno g (by simp))
    have hinv' : C2Inv gs (C2.drop g.prims.length) := by
      rcases hinv with rfl | hno
      · exact .inl (by rw [fchkC2, List.flatMap_cons, List.drop_left' hblock]; rfl)
      · exact .inr fun k hk => hno k (by simp [hk])
    simp only [List.map_cons, List.flatMap_cons, fchkReadL]
    rw [fchkShell_ok g hg _ _ C2 hc2, List.drop_left' l1, List.drop_left' l2,
      fchkReadL_ok gs _ (fun k hk => h k (by simp [hk])) hinv']

theorem fchkRead_write (gs : List GShell) (h : ∀ g ∈ gs, FchkOK g) :
    ∃ b, fchkWriteBasis gs = some b ∧ fchkReadBasis b = gs := by
  unfold fchkWriteBasis
  rw [allSome_types gs h]
  refine ⟨_, rfl, ?_⟩
  unfold fchkReadBasis
  simp only
  apply fchkReadL_ok gs _ h
  by_cases hc : (gs.map tyOf).contains (-1) = true
  · left; rw [if_pos hc]; rfl
  · exact .inr fun g hg ht => hc (by simpa using ⟨g, hg, ht⟩)

end Iodata.Wf
