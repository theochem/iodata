/- `convert_to_segmented` as a `flatMap` over the shells (contractions, kept shells and well-formedness follow
shell by shell), and `convert_to_unrestricted` on restricted orbitals through the C12 invariant. -/
import Iodata.Model.Segment
import Iodata.Lemmas.Orbitals
namespace Iodata.Seg
open Iodata.Orb

theorem map_fst_pair {α : Type} (l : List α) (f : Bool) : l.map (Prod.fst ∘ fun s => (s, f)) = l :=
  List.map_id'' (fun _ => rfl) l

theorem segment_eq_flatMap (k : Bool) (b : Basis) :
    segment k b = b.flatMap fun sh => if isKept k sh then [sh] else splitShell sh := by
  simp only [segment, segmentFlagged, List.map_flatMap]
  congr 1; funext sh
  split <;> simp [map_fst_pair]

theorem contractions_split (sh : GShell) : contractions (splitShell sh) = contractions [sh] := by
  simp only [contractions, splitShell, List.flatMap_map, List.flatMap_cons, List.flatMap_nil, List.append_nil]
  simp only [zip3, List.zip_cons_cons, List.zip_nil_right, List.map_cons, List.map_nil]
  exact List.map_eq_flatMap.symm

theorem contractions_segment (k : Bool) (b : Basis) : contractions (segment k b) = contractions b := by
  rw [segment_eq_flatMap]; unfold contractions; rw [List.flatMap_assoc]
  congr 1; funext sh
  split
  · exact List.flatMap_singleton _ sh
  · exact (contractions_split sh).trans (List.flatMap_singleton _ sh)

theorem isKept_split (k : Bool) (sh s : GShell) (h : s ∈ splitShell sh) : isKept k s = true := by
  simp only [splitShell, List.mem_map] at h
  obtain ⟨c, _, rfl⟩ := h
  simp [isKept]

theorem segment_all_kept (k : Bool) (b : Basis) : (segment k b).all (isKept k) = true := by
  rw [segment_eq_flatMap, List.all_flatMap]
  refine List.all_eq_true.mpr fun sh _ => ?_
  split
  · simp [*]
  · exact List.all_eq_true.mpr (isKept_split k sh)

theorem segmentFlagged_of_all_kept (k : Bool) (b : Basis) (h : b.all (isKept k) = true) :
    segmentFlagged k b = b.map fun sh => (sh, true) := by
  induction b with
  | nil => rfl
  | cons sh t ih =>
    simp only [List.all_cons, Bool.and_eq_true] at h
    simp only [segmentFlagged, List.flatMap_cons, h.1, if_true, List.map_cons]
    have := ih h.2
    simp only [segmentFlagged] at this
    rw [this]; rfl

theorem segment_of_all_kept (k : Bool) (b : Basis) (h : b.all (isKept k) = true) : segment k b = b := by
  simp [segment, segmentFlagged_of_all_kept k b h, List.map_map, map_fst_pair]

theorem wf_split (sh s : GShell) (hw : sh.WF) (h : s ∈ splitShell sh) : s.WF := by
  simp only [splitShell, List.mem_map] at h
  obtain ⟨c, hc, rfl⟩ := h
  refine ⟨rfl, rfl, ?_⟩
  intro col hcol
  simp only [List.mem_cons, List.not_mem_nil, or_false] at hcol
  subst hcol
  apply hw.2.2
  simp only [zip3] at hc
  exact (List.of_mem_zip (List.of_mem_zip hc).2).2

/-- the component count used for the function list is the per-contraction count of `Shell.nbasis` -/
theorem ncomp_eq_nfnSpec (l : Nat) (k : String) : ncomp l k = nfnSpec (l, k) := rfl

theorem zip3_length (sh : GShell) (hw : sh.WF) : (zip3 sh).length = sh.angmoms.length := by
  simp [zip3, List.length_zip, hw.1, hw.2.1]

/-- the object `convert_to_unrestricted` builds from restricted orbitals, given the new occupations `o`
(the model writes this record inline in `toUnrestricted`) -/
def unrestrictedOf (m : MO) (o : Option (List Rat)) : MO :=
  { kind := .unrestricted, norba := m.norba, norbb := m.norbb, occs := o,
    coeffs := m.coeffs.map fun c => c ++ c, energies := m.energies.map fun c => c ++ c,
    irreps := m.irreps.map fun c => c ++ c, aminusb := none }

theorem inv_unrestrictedOf {m : MO} (hi : Inv m) (hk : m.kind = .restricted) {n : Nat} (hn : m.norba = some n)
    (o : Option (List Rat)) (ho : ∀ x, o = some x → x.length = n + n) : Inv (unrestrictedOf m o) := by
  obtain ⟨n', hna, hnb, hnorb⟩ := counts_restricted hi.1 hk
  rw [hn] at hna; cases hna
  have hnorb' : norb (unrestrictedOf m o) = some (n + n) := by simp [unrestrictedOf, norb, hn, hnb]
  refine ⟨countsOk_unrestricted rfl hn hnb, ?_, by simp [unrestrictedOf]⟩
  intro f a hf
  rw [hnorb']
  have dbl : ∀ (src : Option (List Rat)) (g : Fld), Orb.get m g = src → src.map (fun c => c ++ c) = some a →
      a.length = n + n := by
    intro src g hg hsrc
    cases src with
    | none => cases hsrc
    | some c =>
      simp at hsrc; subst hsrc
      simp [List.length_append, hi.len hg hnorb]
  cases f
  · simp only [Orb.get, unrestrictedOf] at hf; rw [ho a hf]
  · rw [dbl m.coeffs .coeffs rfl hf]
  · rw [dbl m.energies .energies rfl hf]
  · rw [dbl m.irreps .irreps rfl hf]
  · simp [Orb.get, unrestrictedOf] at hf

/-- `convert_to_unrestricted` on restricted orbitals: the result is a new valid unrestricted object with the same
counts, and every spin-resolved getter (occupations, views of coeffs/energies/irreps) and `nelec`, `spinpol`
read the same as before -/
theorem toUnrestricted_restricted {m : MO} (hi : Inv m) (hk : m.kind = .restricted) :
    ∃ m', toUnrestricted m = .ok (m', false) ∧ Inv m' ∧ m'.kind = .unrestricted ∧
      m'.norba = m.norba ∧ m'.norbb = m.norbb ∧
      occsa m' = occsa m ∧ occsb m' = occsb m ∧
      (∀ beta, view m' beta m'.coeffs = view m beta m.coeffs) ∧
      (∀ beta, view m' beta m'.energies = view m beta m.energies) ∧
      (∀ beta, view m' beta m'.irreps = view m beta m.irreps) ∧
      nelec m' = nelec m ∧ spinpol m' = spinpol m := by
  obtain ⟨n, hna, hnb, hnorb⟩ := counts_restricted hi.1 hk
  have hview : ∀ (src : Option (List Rat)) (g : Fld), Orb.get m g = src → ∀ beta o,
      view (unrestrictedOf m o) beta (src.map fun c => c ++ c) = view m beta src := by
    intro src g hg beta o
    cases src with
    | none => simp [view, unrestrictedOf, hk]
    | some c =>
      have hl : c.length = n := hi.len hg hnorb
      cases beta <;> simp [view, unrestrictedOf, hk, hna, hl]
  cases ho : m.occs with
  | none =>
    have hinv := inv_unrestrictedOf hi hk hna none (fun x hx => by cases hx)
    refine ⟨unrestrictedOf m none, ?_, hinv, rfl, rfl, rfl, ?_, ?_, fun beta => hview _ .coeffs rfl beta none,
      fun beta => hview _ .energies rfl beta none, fun beta => hview _ .irreps rfl beta none, ?_, ?_⟩
    · have hc := construct_ok.mpr ⟨rfl, hinv⟩
      simp only [toUnrestricted, hk, reduceCtorEq, if_false, ho]
      simp only [unrestrictedOf] at hc
      rw [hc]; rfl
    · simp [occsa, unrestrictedOf, hk, ho]
    · simp [occsb, unrestrictedOf, hk, ho]
    · simp [nelec, unrestrictedOf, ho]
    · simp [spinpol, unrestrictedOf, hk, ho]
  | some o =>
    obtain ⟨a, b, ha, hb, hr, _, hs, hne, hsp⟩ := spin_facts hi (by rw [hk]; decide) ho
    obtain ⟨_, hla, hlb⟩ := hr hk
    have hon : o.length = n := hi.len (f := .occs) ho hnorb
    have hlen : (a ++ b).length = n + n := by simp [List.length_append, hla, hlb, hon]
    have hinv := inv_unrestrictedOf hi hk hna (some (a ++ b)) (fun x hx => by cases hx; exact hlen)
    refine ⟨unrestrictedOf m (some (a ++ b)), ?_, hinv, rfl, rfl, rfl, ?_, ?_, fun beta => hview _ .coeffs rfl beta _,
      fun beta => hview _ .energies rfl beta _, fun beta => hview _ .irreps rfl beta _, ?_, ?_⟩
    · have hc := construct_ok.mpr ⟨rfl, hinv⟩
      simp only [toUnrestricted, hk, reduceCtorEq, if_false, ho, ha, hb]
      simp only [unrestrictedOf] at hc
      rw [hc]; rfl
    · rw [ha]; simp [occsa, unrestrictedOf, hna, hla, hon]
    · rw [hb]; simp [occsb, unrestrictedOf, hna, hla, hon]
    · rw [hne]; simp [nelec, unrestrictedOf, sum_append]
    · rw [hsp]; simp [spinpol, unrestrictedOf, hna, hla, hon]

end Iodata.Seg
