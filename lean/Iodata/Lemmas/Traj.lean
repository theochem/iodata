/- Lemmas for C13 (core Lean only): the `load_many` loop on a file of written frames followed by a tail
   (`Iterates.runLoop_eq`, `FrameLaw`), readers whose success is stable under extension of the input (`Extends`: they
   raise on every proper prefix of a frame), and what `pdb.load_one` and `mol2.load_one`, which are not of that
   kind, do on written frames and on their cuts. -/
import Iodata.Model.Traj
import Iodata.Lemmas.StrLit
namespace Iodata.Traj

theorem abs_back (l : Line) (r : LitRaw) :
    (LitRaw.back l r).abs = ⟨l :: r.abs.pending, r.abs.lineno - 1⟩ := by
  simp [LitRaw.back, LitRaw.abs]

theorem abs_next (r : LitRaw) :
    (match r.next with
     | (some l, r') => next r.abs = .ok l r'.abs
     | (none, r') => next r.abs = .raise .stop r'.abs) := by
  unfold LitRaw.next
  cases hs : r.stack with
  | cons l st => simp [LitRaw.abs, next, hs]
  | nil =>
    cases hf : r.fh with
    | cons l t => simp [LitRaw.abs, next, hs, hf]
    | nil => simp [LitRaw.abs, next, hs, hf]

@[simp] theorem bind_apply (m : M α) (f : α → M β) (s : Lit) :
    (m >>= f) s = (match m s with | .ok a s' => f a s' | .raise e s' => .raise e s') := rfl
@[simp] theorem pure_apply (a : α) (s : Lit) : (pure a : M α) s = .ok a s := rfl
@[simp] theorem next_cons (l : Line) (t : List Line) (ln : Int) : next ⟨l :: t, ln⟩ = .ok l ⟨t, ln + 1⟩ := rfl
@[simp] theorem next_nil (ln : Int) : next ⟨[], ln⟩ = .raise .stop ⟨[], ln + 1⟩ := rfl
@[simp] theorem back_apply (l : Line) (s : Lit) : back l s = .ok () ⟨l :: s.pending, s.lineno - 1⟩ := rfl
@[simp] theorem throw_apply (e : Exc) (s : Lit) : (throw e : M α) s = .raise e s := rfl

@[local simp] theorem natCast_not_neg (n : Nat) : ¬ ((n : Int) < 0) := by omega

theorem readN_map {pa : Line → Option α} {fa : α → Line} (h : ∀ a, pa (fa a) = some a) :
    ∀ (as : List α) (rest : List Line) (ln : Int),
      readN pa as.length ⟨as.map fa ++ rest, ln⟩ = .ok as ⟨rest, ln + as.length⟩
  | [], rest, ln => by simp [readN]
  | a :: as, rest, ln => by
    simp [readN, h, readN_map h as rest (ln + 1)]
    omega

theorem readN_short {pa : Line → Option α} {fa : α → Line} (h : ∀ a, pa (fa a) = some a) :
    ∀ (as : List α) (n : Nat) (ln : Int), as.length < n →
      readN pa n ⟨as.map fa, ln⟩ = (.raise .stop ⟨[], ln + as.length + 1⟩ : Res (List α))
  | [], n + 1, ln, _ => by simp [readN]
  | a :: as, n + 1, ln, hl => by
    simp [readN, h, readN_short h as n (ln + 1) (by simpa using hl)]
    omega

/-- Success of a reader is stable under extension of the input: lines it did not reach may be followed by anything.
    Holds for readers that only look at the input through `next` and never take the end of the file for a success
    (`pdb.load_one` and `mol2.load_one` do, and are not of this kind). -/
def Extends {α : Type} (m : M α) : Prop :=
  ∀ (p : List Line) (ln : Int) (a : α) (s : Lit), m ⟨p, ln⟩ = .ok a s →
    ∀ rest, m ⟨p ++ rest, ln⟩ = .ok a ⟨s.pending ++ rest, s.lineno⟩

namespace Extends
variable {α β : Type}

theorem pure (a : α) : Extends (Pure.pure a : M α) := by
  intro p ln b s h rest
  cases h; rfl

theorem throw (e : Exc) : Extends (Traj.throw e : M α) := by
  intro p ln b s h
  cases h

theorem next : Extends Traj.next := by
  intro p ln l s h rest
  cases p with
  | nil => cases h
  | cons x t => cases h; rfl

theorem back (l : Line) : Extends (Traj.back l) := by
  intro p ln u s h rest
  cases h; rfl

theorem bind {m : M α} {f : α → M β} (hm : Extends m) (hf : ∀ a, Extends (f a)) : Extends (m >>= f) := by
  intro p ln b s h rest
  rw [bind_apply] at h ⊢
  cases hr : m ⟨p, ln⟩ with
  | raise e s1 => rw [hr] at h; cases h
  | ok a s1 =>
    rw [hr] at h
    rw [hm p ln a s1 hr rest]
    exact hf a s1.pending s1.lineno b s h rest

theorem readN (pr : Line → Option α) : ∀ n, Extends (Traj.readN pr n)
  | 0 => pure []
  | n + 1 => by
    unfold Traj.readN
    refine bind next fun l => ?_
    split
    · exact throw _
    · exact bind (readN pr n) fun _ => pure _

theorem sdfFindEndM : Extends Traj.sdfFindEndM := by
  intro p
  induction p with
  | nil => intro ln u s h; cases h
  | cons l t ih =>
    intro ln u s h rest
    simp only [Traj.sdfFindEndM, sdfFindEnd, List.cons_append] at h ⊢
    split at h
    · rename_i hl; rw [if_pos hl]; cases h; rfl
    · rename_i hl; rw [if_neg hl]; exact ih (ln + 1) u s h rest

theorem raises_on_cut {m : M α} (hm : Extends m) {p rest : List Line} {a : α} {ln ln' : Int}
    (h : m ⟨p ++ rest, ln⟩ = .ok a ⟨rest, ln'⟩) {k : Nat} (hk : k < p.length) :
    ∃ e s, m ⟨p.take k, ln⟩ = .raise e s := by
  cases hr : m ⟨p.take k, ln⟩ with
  | raise e s => exact ⟨e, s, rfl⟩
  | ok b s =>
    have h' := hm _ ln b s hr (p.drop k ++ rest)
    rw [← List.append_assoc, List.take_append_drop, h] at h'
    have hlen := congrArg (fun r => match r with | Res.ok _ s => s.pending.length | _ => 0) h'
    simp at hlen
    omega
end Extends

theorem xyzLoadOne_extends {α : Type} (pa : Line → Option α) : Extends (xyzLoadOne pa) := by
  unfold xyzLoadOne
  refine .bind .next fun cl => ?_
  split
  · exact .throw _
  · refine .bind .next fun tl => ?_
    split
    · exact .throw _
    · exact .bind (.readN _ _) fun _ => .pure _

theorem extLoadOne_extends {α : Type} (pt : Line → Bool) (pa : Line → Option α) : Extends (extLoadOne pt pa) := by
  unfold extLoadOne
  refine .bind .next fun al => .bind .next fun tl => ?_
  split
  · exact .throw _
  · exact .bind (.back _) fun _ => .bind (.back _) fun _ => xyzLoadOne_extends pa

theorem groLoadOne_extends {α : Type} (pt : Line → Bool) (pa : Line → Option α) (pc : Line → Bool) :
    Extends (groLoadOne pt pa pc) := by
  unfold groLoadOne
  refine .bind .next fun tl => ?_
  split
  · exact .throw _
  · refine .bind .next fun cl => ?_
    split
    · exact .throw _
    · split
      · exact .throw _
      · refine .bind (.readN _ _) fun _ => .bind .next fun bl => ?_
        split
        · exact .throw _
        · exact .pure _

theorem sdfLoadOne_extends {α β : Type} (pa : Line → Option α) (pb : Line → Option β) :
    Extends (sdfLoadOne pa pb) := by
  unfold sdfLoadOne
  refine .bind .next fun tl => .bind .next fun _ => .bind .next fun _ => .bind .next fun cl => ?_
  split
  · exact .throw _
  · split
    · exact .throw _
    · split
      · exact .throw _
      · split
        · exact .throw _
        · split
          · exact .throw _
          · refine .bind (.readN _ _) fun _ => ?_
            split
            · exact .throw _
            · exact .bind (.readN _ _) fun _ => .bind .sdfFindEndM fun _ => .pure _

section frames
variable {F G : Type}

/-- `Iterates … tail`: an iteration of the loop on a frame `dump g` of the domain `D` that is followed by written
    frames and `tail` yields `norm g` and goes on behind the frame. -/
structure Iterates (sk : LoopSkel) (loadOne : M F) (dump : G → List Line) (norm : G → F) (D : G → Prop)
    (tail : List Line) : Prop where
  ne : ∀ g, dump g ≠ []
  iter : ∀ (g : G) (gs : List G), D g → ∀ fuel ln first,
    (gs.flatMap dump ++ tail).length < fuel → ∃ ln',
    runLoop sk loadOne (fuel + 1) first ⟨dump g ++ (gs.flatMap dump ++ tail), ln⟩ =
      (norm g :: (runLoop sk loadOne fuel false ⟨gs.flatMap dump ++ tail, ln'⟩).1,
        (runLoop sk loadOne fuel false ⟨gs.flatMap dump ++ tail, ln'⟩).2)

/-- what most formats give: a written frame is not empty and, if in the domain and followed by anything, passes
    the loop's peek untouched and is consumed exactly by `load_one` (the prefix law) -/
structure FrameLaw (sk : LoopSkel) (loadOne : M F) (dump : G → List Line) (norm : G → F) (D : G → Prop) : Prop where
  ne : ∀ g, dump g ≠ []
  peek : ∀ g, D g → ∀ rest ln first, runPeek sk.peek first ⟨dump g ++ rest, ln⟩ = .go ⟨dump g ++ rest, ln⟩
  law : ∀ g, D g → ∀ rest ln, ∃ ln', loadOne ⟨dump g ++ rest, ln⟩ = .ok (norm g) ⟨rest, ln'⟩

variable {sk : LoopSkel} {loadOne : M F} {dump : G → List Line} {norm : G → F} {D : G → Prop} {tail : List Line}

theorem FrameLaw.iterates (h : FrameLaw sk loadOne dump norm D) (tail : List Line) :
    Iterates sk loadOne dump norm D tail :=
  ⟨h.ne, fun g gs hg fuel ln first _ => by
    obtain ⟨ln', hl⟩ := h.law g hg (gs.flatMap dump ++ tail) ln
    exact ⟨ln', by simp only [runLoop, h.peek g hg _ ln first, hl]⟩⟩

/-- **the loop on frames followed by a tail**: the frames of `gs` are yielded in order and the loop goes on with
    `tail` — as a first iteration only if there was no frame. -/
theorem Iterates.runLoop_eq (h : Iterates sk loadOne dump norm D tail) :
    ∀ (gs : List G) (fuel : Nat) (ln : Int) (first : Bool), (∀ g ∈ gs, D g) →
      (gs.flatMap dump ++ tail).length < fuel →
      ∃ fuel' ln', tail.length ≤ fuel' ∧ Traj.runLoop sk loadOne fuel first ⟨gs.flatMap dump ++ tail, ln⟩ =
        (gs.map norm ++ (Traj.runLoop sk loadOne (fuel' + 1) (first && gs.isEmpty) ⟨tail, ln'⟩).1,
          (Traj.runLoop sk loadOne (fuel' + 1) (first && gs.isEmpty) ⟨tail, ln'⟩).2)
  | _, 0, _, _, _, hf => by simp at hf
  | [], fuel + 1, ln, first, _, hf => ⟨fuel, ln, by simpa [Nat.lt_succ_iff] using hf, by simp⟩
  | g :: gs, fuel + 1, ln, first, hD, hf => by
    have hDgs := fun x hx => hD x (List.mem_cons_of_mem g hx)
    have hlen : 0 < (dump g).length := List.length_pos_iff.mpr (h.ne g)
    obtain ⟨ln', hi⟩ := h.iter g gs (hD g (by simp)) fuel ln first (by simp at hf ⊢; omega)
    obtain ⟨fuel', ln'', hf', he⟩ := h.runLoop_eq gs fuel ln' false hDgs (by simp at hf ⊢; omega)
    exact ⟨fuel', ln'', hf', by
      simp only [List.flatMap_cons, List.append_assoc, hi, he, List.map_cons, List.cons_append, Bool.false_and,
        List.isEmpty_cons, Bool.and_false]⟩

theorem Iterates.loadMany_eq (h : Iterates sk loadOne dump norm D tail) (gs : List G) (hD : ∀ g ∈ gs, D g) :
    ∃ fuel ln, tail.length ≤ fuel ∧ Traj.loadMany sk loadOne (gs.flatMap dump ++ tail) =
      ⟨gs.map norm ++ (Traj.runLoop sk loadOne (fuel + 1) gs.isEmpty ⟨tail, ln⟩).1,
        apiFinal (Traj.runLoop sk loadOne (fuel + 1) gs.isEmpty ⟨tail, ln⟩).2⟩ := by
  obtain ⟨fuel, ln, hf, he⟩ := h.runLoop_eq gs (_ + 1) 0 true hD (Nat.lt_succ_self _)
  exact ⟨fuel, ln, hf, by simp only [Traj.loadMany, Lit.ofLines, he, Bool.true_and]⟩

theorem Iterates.then_end (h : Iterates sk loadOne dump norm D tail) (gs : List G) (hgs : gs ≠ [])
    (hD : ∀ g ∈ gs, D g) (hend : ∀ ln, runPeek sk.peek false ⟨tail, ln⟩ = .eof) :
    Traj.loadMany sk loadOne (gs.flatMap dump ++ tail) = ⟨gs.map norm, .done⟩ := by
  obtain ⟨fuel, ln, _, he⟩ := h.loadMany_eq gs hD
  rw [he, List.isEmpty_eq_false_iff.mpr hgs]
  simp [Traj.runLoop, hend ln, apiFinal]

theorem runLoop_raise {sk : LoopSkel} {loadOne : M F} (fuel : Nat) {first : Bool} {s s' s'' : Lit} {e : Exc}
    (hp : runPeek sk.peek first s = .go s') (hl : loadOne s' = .raise e s'')
    (hh : findHandler sk.handlers e = none ∨ findHandler sk.handlers e = some .toLoadError) :
    ∃ e', Traj.runLoop sk loadOne (fuel + 1) first s = ([], .raised e' s'') := by
  rcases hh with hh | hh
  · exact ⟨e, by simp only [Traj.runLoop, hp, hl, hh]⟩
  · exact ⟨.loadError, by simp only [Traj.runLoop, hp, hl, hh]⟩

theorem Iterates.then_bad (h : Iterates sk loadOne dump norm D tail) (gs : List G) (hD : ∀ g ∈ gs, D g)
    (hbad : ∀ ln first, ∃ s' e s'', runPeek sk.peek first ⟨tail, ln⟩ = .go s' ∧ loadOne s' = .raise e s'' ∧
      (findHandler sk.handlers e = none ∨ findHandler sk.handlers e = some .toLoadError)) :
    ∃ ln, Traj.loadMany sk loadOne (gs.flatMap dump ++ tail) = ⟨gs.map norm, .loadError ln⟩ := by
  obtain ⟨fuel, ln, _, he⟩ := h.loadMany_eq gs hD
  obtain ⟨s', e, s'', hp, hl, hh⟩ := hbad ln gs.isEmpty
  obtain ⟨e', hr⟩ := runLoop_raise fuel hp hl hh
  exact ⟨s''.lineno, by rw [he, hr]; simp [apiFinal]⟩

theorem FrameLaw.then_cut (h : FrameLaw sk loadOne dump norm D) (hext : Extends loadOne)
    (hh : ∀ e, findHandler sk.handlers e = none ∨ findHandler sk.handlers e = some .toLoadError)
    (gs : List G) (hD : ∀ g ∈ gs, D g) (g : G) (hg : D g) (m : Nat) (hm : m < (dump g).length)
    (hcut : ∀ ln first, runPeek sk.peek first ⟨(dump g).take m, ln⟩ = .go ⟨(dump g).take m, ln⟩) :
    ∃ ln, Traj.loadMany sk loadOne (gs.flatMap dump ++ (dump g).take m) = ⟨gs.map norm, .loadError ln⟩ :=
  (h.iterates _).then_bad gs hD fun ln first => by
    obtain ⟨ln', hl⟩ := h.law g hg [] ln
    obtain ⟨e, s, hr⟩ := hext.raises_on_cut hl hm
    exact ⟨_, e, s, hcut ln first, hr, hh e⟩
end frames

theorem stopToLoadError (e : Exc) : findHandler [([.stop], .toLoadError)] e = none ∨
    findHandler [([.stop], .toLoadError)] e = some .toLoadError := by
  cases e <;> decide

theorem splitNl_no_nl : ∀ {t : List Char}, '\n' ∉ t → splitNl t = [t]
  | [], _ => rfl
  | c :: t, h => by
    have hc : c ≠ '\n' := fun e => h (by simp [e])
    have ht : '\n' ∉ t := fun e => h (by simp [e])
    simp [splitNl, splitNl_no_nl ht, hc]

theorem titleOr_no_nl {t : List Char} (h : '\n' ∉ t) : '\n' ∉ titleOr t := by
  unfold titleOr
  split
  · unfold defaultTitle
    rw [Iodata.Chars.toList_lit (by with_reducible rfl)]
    decide +kernel
  · exact h

theorem skipBlank_go {l : Line} {t : List Line} {ln : Int} {first : Bool} (h : isBlank l = false) :
    runPeek .skipBlank first ⟨l :: t, ln⟩ = .go ⟨l :: t, ln⟩ := by
  simp [runPeek, skipBlankGo, h]

theorem skipBlank_eof : ∀ {t : List Line} {ln : Int}, (∀ l ∈ t, isBlank l = true) → skipBlankGo t ln = .eof
  | [], _, _ => rfl
  | l :: t, ln, h => by
    simp [skipBlankGo, h l (by simp), skipBlank_eof (ln := ln + 1) fun x hx => h x (List.mem_cons_of_mem l hx)]

theorem collectGo_pushAll : ∀ (pending acc : List Line) (ln : Int), (∃ l ∈ pending, isBlank l = false) →
    ∃ acc' rest ln', collectGo pending acc ln = some (acc', rest, ln') ∧
      pushAll acc' ⟨rest, ln'⟩ = pushAll acc ⟨pending, ln⟩
  | [], _, _, ⟨_, hl, _⟩ => nomatch hl
  | l :: t, acc, ln, ⟨x, hx, hxb⟩ => by
    have hp : pushAll (l :: acc) ⟨t, ln + 1⟩ = pushAll acc ⟨l :: t, ln⟩ := by simp [pushAll]
    by_cases hb : isBlank l = true
    · obtain ⟨acc', rest, ln', h1, h2⟩ := collectGo_pushAll t (l :: acc) (ln + 1)
        ⟨x, (List.mem_cons.mp hx).resolve_left fun e => by simp [e, hb] at hxb, hxb⟩
      exact ⟨acc', rest, ln', by simp [collectGo, hb, h1], h2.trans hp⟩
    · exact ⟨l :: acc, t, ln + 1, by simp [collectGo, hb], hp⟩

theorem peekPushAll_go {s : Lit} {first : Bool} (h : ∃ l ∈ s.pending, isBlank l = false) :
    runPeek .peekPushAll first s = .go s := by
  obtain ⟨acc', rest, ln', h1, h2⟩ := collectGo_pushAll s.pending [] s.lineno h
  simp [runPeek, h1, h2, pushAll]

theorem collectGo_none : ∀ {pending acc : List Line} {ln : Int}, (∀ l ∈ pending, isBlank l = true) →
    collectGo pending acc ln = none
  | [], _, _, _ => rfl
  | l :: t, acc, ln, h => by
    simp [collectGo, h l (by simp),
      collectGo_none (acc := l :: acc) (ln := ln + 1) fun x hx => h x (List.mem_cons_of_mem l hx)]

theorem natDigits_length_le (n k : Nat) (hk : 0 < k) (h : n < 10 ^ k) : (natDigits n).length ≤ k := by
  have := (Nat.length_toDigits_le_iff (b := 10) (n := n) (by omega) hk).mpr h
  simpa [natDigits, toString, Nat.repr] using this

theorem rjust_length (w : Nat) (s : Line) (h : s.length ≤ w) : (rjust w s).length = w := by
  simp [rjust]; omega

theorem strip_space_cons (l : Line) : strip (' ' :: l) = strip l := by
  simp [strip, lstrip, isWs]

section pdb
variable {α β : Type} {pa : Line → Option α} {fa : α → Line} {pb : Line → Option β} {fb : β → Line}

theorem startsWith_append {k p : Line} (l : Line) (h : startsWith k p = true) : startsWith k (p ++ l) = true :=
  List.isPrefixOf_iff_prefix.mpr ((List.isPrefixOf_iff_prefix.mp h).trans (List.prefix_append p l))

theorem pdbGo_title (p l : Line) (hp : p.length = 10) (hk : startsWith pTITLE p = true) (t : List Line) (ln : Int)
    (acc : PdbFrame α β) (found : Bool) :
    pdbGo pa pb ((p ++ l) :: t) ln acc found =
      pdbGo pa pb t (ln + 1) { acc with titles := acc.titles ++ [strip l] } found := by
  rw [pdbGo, if_pos (startsWith_append l hk), List.drop_left' hp]

theorem pdbGo_compnd (p l : Line) (hp : p.length = 10) (hk : startsWith pCOMPND p = true) (t : List Line) (ln : Int)
    (acc : PdbFrame α β) (found : Bool) :
    pdbGo pa pb ((p ++ l) :: t) ln acc found =
      pdbGo pa pb t (ln + 1) { acc with compnd := acc.compnd ++ [strip l] } found := by
  have hT : startsWith pTITLE (p ++ l) = false := by
    cases p with
    | nil => cases hp
    | cons c p =>
      simp only [startsWith, pCOMPND, List.isPrefixOf, Bool.and_eq_true, beq_iff_eq] at hk
      rw [← hk.1]; rfl
  rw [pdbGo, hT, if_neg Bool.false_ne_true, if_pos (startsWith_append l hk), List.drop_left' hp]

/-- `_dump_multiline_str(f, key, text)` read back, for a key whose records add their stripped text to the frame by
    `add`: first record `key.ljust(10)`, then `key + str(i+2).rjust(10-len(key)) + " "`, as long as the number
    fits its columns -/
theorem pdbGo_multi (key : Line) (add : PdbFrame α β → List Line → PdbFrame α β)
    (hnil : ∀ acc, add acc [] = acc) (happ : ∀ acc a b, add (add acc a) b = add acc (a ++ b))
    (hrec : ∀ p l, p.length = 10 → startsWith key p = true → ∀ t ln acc found,
      pdbGo pa pb ((p ++ l) :: t) ln acc found = pdbGo pa pb t (ln + 1) (add acc [strip l]) found)
    {ls : List Line} (h : ls.length + 1 < 10 ^ (10 - key.length)) {t : List Line} {ln : Int}
    {acc : PdbFrame α β} {found : Bool} :
    pdbGo pa pb (pdbMulti key ls ++ t) ln acc found =
      pdbGo pa pb t (ln + ls.length) (add acc (ls.map strip)) found := by
  have hkey : key.length < 10 := Nat.lt_of_not_le fun hk => by
    rw [Nat.sub_eq_zero_of_le hk] at h
    omega
  have hself : ∀ r : Line, startsWith key (key ++ r) = true := fun r =>
    List.isPrefixOf_iff_prefix.mpr (List.prefix_append key r)
  have aux : ∀ (ls : List Line) (i : Nat), i + ls.length + 1 < 10 ^ (10 - key.length) → ∀ (ln : Int)
      (acc : PdbFrame α β), pdbGo pa pb (pdbMultiAux key i ls ++ t) ln acc found =
        pdbGo pa pb t (ln + ls.length) (add acc (ls.map strip)) found := by
    intro ls
    induction ls with
    | nil => intro i _ ln acc; simp [pdbMultiAux, hnil]
    | cons l ls ih =>
      intro i hi ln acc
      have hlen : (key ++ rjust (10 - key.length) (natDigits (i + 2))).length = 10 := by
        rw [List.length_append, rjust_length _ _ (natDigits_length_le _ _ (by omega) (by simp at hi; omega))]
        omega
      have := hrec _ (' ' :: l) hlen (hself _) (pdbMultiAux key (i + 1) ls ++ t) ln acc found
      simp only [pdbMultiAux, List.cons_append, List.append_assoc, List.nil_append] at this ⊢
      rw [this, strip_space_cons, ih (i + 1) (by simp at hi; omega), happ]
      simp only [List.length_cons, List.map_cons, List.singleton_append]
      congr 1; push_cast; omega
  cases ls with
  | nil => simp [pdbMulti, hnil]
  | cons l ls =>
    have hlen : (ljust 10 key).length = 10 := by simp [ljust]; omega
    have := hrec _ l hlen (by rw [ljust]; exact hself _) (pdbMultiAux key 0 ls ++ t) ln acc found
    simp only [pdbMulti, List.cons_append]
    rw [this, aux ls 0 (by simp at h; omega), happ]
    simp only [List.length_cons, List.map_cons, List.singleton_append]
    congr 1; push_cast; omega

theorem pdbGo_multi_title {ls : List Line} (h : ls.length < 99999) {t : List Line} {ln : Int}
    {acc : PdbFrame α β} {found : Bool} :
    pdbGo pa pb (pdbMulti pTITLE ls ++ t) ln acc found =
      pdbGo pa pb t (ln + ls.length) { acc with titles := acc.titles ++ ls.map strip } found :=
  pdbGo_multi pTITLE (fun acc ls => { acc with titles := acc.titles ++ ls }) (by simp) (by simp)
    pdbGo_title (by simp [pTITLE]; omega)

theorem pdbGo_multi_compnd {ls : List Line} (h : ls.length < 9999) {t : List Line} {ln : Int}
    {acc : PdbFrame α β} {found : Bool} :
    pdbGo pa pb (pdbMulti pCOMPND ls ++ t) ln acc found =
      pdbGo pa pb t (ln + ls.length) { acc with compnd := acc.compnd ++ ls.map strip } found :=
  pdbGo_multi pCOMPND (fun acc ls => { acc with compnd := acc.compnd ++ ls }) (by simp) (by simp)
    pdbGo_compnd (by simp [pCOMPND]; omega)

theorem pdbGo_atoms (ha : ∀ a, pa (pATOM ++ [' ', ' '] ++ fa a) = some a) :
    ∀ (as : List α) (t : List Line) (ln : Int) (acc : PdbFrame α β) (found : Bool),
      pdbGo pa pb (as.map (fun a => pATOM ++ [' ', ' '] ++ fa a) ++ t) ln acc found =
        pdbGo pa pb t (ln + as.length) { acc with atoms := acc.atoms ++ as } (found || !as.isEmpty)
  | [], t, ln, acc, found => by simp
  | a :: as, t, ln, acc, found => by
    have ih := pdbGo_atoms ha as t (ln + 1) { acc with atoms := acc.atoms ++ [a] } true
    have h := ha a
    simp only [pATOM, List.cons_append, List.nil_append] at h ih
    simp [pdbGo, pATOM, pTITLE, pCOMPND, startsWith, h, ih]
    congr 1; omega

theorem pdbGo_conects (hb : ∀ b, pb (pCONECT ++ fb b) = some b) :
    ∀ (bs : List β) (t : List Line) (ln : Int) (acc : PdbFrame α β) (found : Bool),
      pdbGo pa pb (bs.map (fun b => pCONECT ++ fb b) ++ t) ln acc found =
        pdbGo pa pb t (ln + bs.length) { acc with conects := acc.conects ++ bs } found
  | [], t, ln, acc, found => by simp
  | b :: bs, t, ln, acc, found => by
    have ih := pdbGo_conects hb bs t (ln + 1) { acc with conects := acc.conects ++ [b] } found
    have h := hb b
    simp only [pCONECT, List.cons_append, List.nil_append] at h ih
    simp [pdbGo, pATOM, pHETATM, pCONECT, pTITLE, pCOMPND, startsWith, h, ih]
    congr 1; omega

/-- a line `pdb.load_one` passes over as long as no ATOM/HETATM record of the frame was read: anything but a TITLE,
    COMPND, ATOM, HETATM or CONECT record (MODEL, CRYST1, REMARK, MASTER, blank lines, and also END / ENDMDL, which
    end a frame only after an atom record) -/
def pdbSkip (l : Line) : Bool :=
  !startsWith pTITLE l && !startsWith pCOMPND l && !startsWith pATOM l && !startsWith pHETATM l &&
    !startsWith pCONECT l

/-- an ATOM or HETATM record -/
def pdbIsAtom (l : Line) : Bool := startsWith pATOM l || startsWith pHETATM l

theorem pdbGo_skips : ∀ (sk : List Line), (∀ l ∈ sk, pdbSkip l = true) → ∀ (t : List Line) (ln : Int)
    (acc : PdbFrame α β), pdbGo pa pb (sk ++ t) ln acc false = pdbGo pa pb t (ln + sk.length) acc false
  | [], _, t, ln, acc => by simp
  | l :: sk, h, t, ln, acc => by
    have hl := h l (by simp)
    simp only [pdbSkip, Bool.and_eq_true, Bool.not_eq_true'] at hl
    obtain ⟨⟨⟨⟨h1, h2⟩, h3⟩, h4⟩, h5⟩ := hl
    have ih := pdbGo_skips sk (fun x hx => h x (by simp [hx])) t (ln + 1) acc
    simp only [List.cons_append, pdbGo, h1, h2, h3, h4, h5, Bool.or_self, Bool.and_false, if_false, ih,
      List.length_cons, Bool.false_eq_true]
    congr 1; push_cast; omega

theorem pdbGo_cons_goes (l : Line) (t : List Line) (ln : Int) (acc : PdbFrame α β) (found : Bool)
    (hat : pdbIsAtom l = true → (pa l).isSome = true) (hco : startsWith pCONECT l = true → (pb l).isSome = true)
    (he : found = true → startsWith pEND l = false) :
    ∃ acc', pdbGo pa pb (l :: t) ln acc found = pdbGo pa pb t (ln + 1) acc' (found || pdbIsAtom l) := by
  rw [pdbGo]
  by_cases hA : pdbIsAtom l = true
  · obtain ⟨h1, h2⟩ : startsWith pTITLE l = false ∧ startsWith pCOMPND l = false := by
      cases l with
      | nil => simp [pdbIsAtom, startsWith, pATOM, pHETATM] at hA
      | cons c t =>
        simp [pdbIsAtom, startsWith, pATOM, pHETATM] at hA
        rcases hA with ⟨rfl, _⟩ | ⟨rfl, _⟩ <;> exact ⟨rfl, rfl⟩
    obtain ⟨a, hpa⟩ := Option.isSome_iff_exists.mp (hat hA)
    have hA' : (startsWith pATOM l || startsWith pHETATM l) = true := hA
    refine ⟨{ acc with atoms := acc.atoms ++ [a] }, ?_⟩
    simp only [h1, h2, hA', hpa, hA, Bool.or_true, if_true, if_false, Bool.false_eq_true]
  · rw [Bool.not_eq_true] at hA
    have hA' : (startsWith pATOM l || startsWith pHETATM l) = false := hA
    have hE : (startsWith pEND l && found) = false := by
      cases found
      · exact Bool.and_false _
      · rw [he rfl]; rfl
    rw [hA, Bool.or_false, hA', hE]
    cases h1 : startsWith pTITLE l
    case true => exact ⟨_, if_pos rfl⟩
    cases h2 : startsWith pCOMPND l
    case true => exact ⟨_, by rw [if_neg Bool.false_ne_true, if_pos rfl]⟩
    cases h3 : startsWith pCONECT l
    case false => exact ⟨acc, by simp only [Bool.false_eq_true, if_false]⟩
    obtain ⟨b, hpb⟩ := Option.isSome_iff_exists.mp (hco h3)
    exact ⟨{ acc with conects := acc.conects ++ [b] }, by simp only [Bool.false_eq_true, if_false, if_true, hpb]⟩

/-- lines whose ATOM/HETATM and CONECT records all parse and, once an atom record was seen, without an END record:
    `load_one` reaches the end of the file; with an atom record seen it returns the data read so far with
    `endReached = false` (the LoadWarning "END is not found"), without one it raises "Molecule could not be read" -/
theorem pdbGo_eof : ∀ (ls : List Line) (ln : Int) (acc : PdbFrame α β) (found : Bool),
    (∀ l ∈ ls, (pdbIsAtom l = true → (pa l).isSome = true) ∧ (startsWith pCONECT l = true → (pb l).isSome = true) ∧
      ((found || ls.any pdbIsAtom) = true → startsWith pEND l = false)) →
    ((found || ls.any pdbIsAtom) = true → ∃ g ln', pdbGo pa pb ls ln acc found = .ok g ⟨[], ln'⟩ ∧
      g.endReached = false) ∧
    ((found || ls.any pdbIsAtom) = false → ∃ ln', pdbGo pa pb ls ln acc found = .raise .loadError ⟨[], ln'⟩)
  | [], ln, acc, found, _ => by cases found <;> simp [pdbGo]
  | l :: t, ln, acc, found, h => by
    obtain ⟨hat, hco, he⟩ := h l (by simp)
    obtain ⟨acc', hgo⟩ := pdbGo_cons_goes l t ln acc found hat hco (fun hf => he (by rw [hf]; rfl))
    rw [hgo, List.any_cons, ← Bool.or_assoc]
    exact pdbGo_eof t (ln + 1) acc' (found || pdbIsAtom l) (fun x hx => by
      obtain ⟨h1, h2, h3⟩ := h x (List.mem_cons_of_mem l hx)
      exact ⟨h1, h2, fun hf => h3 (by rw [List.any_cons, ← Bool.or_assoc]; exact hf)⟩)

variable (pa pb) in
theorem pdbGo_no_atoms (t : List Line) (ln : Int) (acc : PdbFrame α β)
    (h : ∀ l ∈ t, startsWith pATOM l = false ∧ startsWith pHETATM l = false ∧ startsWith pCONECT l = false) :
    ∃ ln', pdbGo pa pb t ln acc false = .raise .loadError ⟨[], ln'⟩ := by
  have hany : (false || t.any pdbIsAtom) = false := by
    rw [Bool.false_or, List.any_eq_false]
    intro l hl
    simp [pdbIsAtom, (h l hl).1, (h l hl).2.1]
  refine (pdbGo_eof t ln acc false fun l hl => ⟨fun hA => ?_, fun hc => ?_, fun hf => ?_⟩).2 hany
  · simp [pdbIsAtom, (h l hl).1, (h l hl).2.1] at hA
  · simp [(h l hl).2.2] at hc
  · simp [hany] at hf

/-- after frames of any written form, records that carry no atom end the sequence: `load_one` raises "Molecule could
    not be read" and — a frame having been read — the loop returns -/
theorem pdb_then_no_atoms {G : Type} {dump : G → List Line} {norm : G → PdbFrame α β} {D : G → Prop}
    {trail : List Line} (h : Iterates pdbSkel (pdbLoadOne pa pb) dump norm D trail) (gs : List G) (hne : gs ≠ [])
    (hD : ∀ g ∈ gs, D g)
    (htr : ∀ l ∈ trail, startsWith pATOM l = false ∧ startsWith pHETATM l = false ∧ startsWith pCONECT l = false) :
    loadMany pdbSkel (pdbLoadOne pa pb) (gs.flatMap dump ++ trail) = ⟨gs.map norm, .done⟩ := by
  obtain ⟨fuel, ln, _, he⟩ := h.loadMany_eq gs hD
  obtain ⟨ln', hk⟩ := pdbGo_no_atoms pa pb trail ln ⟨[], [], [], [], false⟩ htr
  rw [he, List.isEmpty_eq_false_iff.mpr hne]
  simp [runLoop, pdbSkel, runPeek, pdbLoadOne, hk, findHandler, apiFinal]

variable (fa) (fb)

/-- a PDB frame as it appears in a file: lines passed over (`pre`: e.g. END/MASTER of a previous frame, CRYST1,
    REMARK), TITLE and COMPND records with continuation numbers, more passed-over lines (`mid`: e.g. `MODEL n`), the
    ATOM records, the CONECT records and a terminating record that starts with `END` (`END`, `ENDMDL`). -/
structure PdbBlock (α β : Type) where
  pre : List Line
  tls : List Line
  cls : List Line
  mid : List Line
  atoms : List α
  conects : List β
  endTail : Line

def pdbBlockLines (b : PdbBlock α β) : List Line :=
  b.pre ++ (pdbMulti pTITLE b.tls ++ (pdbMulti pCOMPND b.cls ++ (b.mid ++
    (b.atoms.map (fun a => pATOM ++ [' ', ' '] ++ fa a) ++ (b.conects.map (fun c => pCONECT ++ fb c) ++
      [pEND ++ b.endTail])))))

def pdbBlockFrame (b : PdbBlock α β) : PdbFrame α β :=
  ⟨b.tls.map strip, b.cls.map strip, b.atoms, b.conects, true⟩

/-- domain of the frame law: at least one atom record (a frame without one has no record the reader recognises
    as a frame, see `pdb_empty_frame_merged_violated`), fewer than 99 999 title and 9 999 compound lines (beyond
    that the continuation number does not fit its columns), `pre`/`mid` free of records the reader interprets -/
def PdbBlockOk (b : PdbBlock α β) : Prop :=
  b.atoms ≠ [] ∧ (∀ l ∈ b.pre, pdbSkip l = true) ∧ (∀ l ∈ b.mid, pdbSkip l = true) ∧
    b.tls.length < 99999 ∧ b.cls.length < 9999

def pdbBlockOfObj (o : PdbObj α β) : PdbBlock α β :=
  ⟨[], splitNl (titleOr o.title), (match o.compnd with | none => [] | some c => splitNl c), [], o.atoms, o.conects, []⟩

theorem pdbBlockLines_ofObj (o : PdbObj α β) : pdbBlockLines fa fb (pdbBlockOfObj o) = pdbDumpOne fa fb o := by
  obtain ⟨t, c, a, b⟩ := o
  cases c <;> simp [pdbBlockLines, pdbBlockOfObj, pdbDumpOne, pdbMulti]

theorem pdbBlockFrame_ofObj (o : PdbObj α β) : pdbBlockFrame (pdbBlockOfObj o) = pdbNorm o := by
  obtain ⟨t, c, a, b⟩ := o
  cases c <;> simp [pdbBlockFrame, pdbBlockOfObj, pdbNorm]

/-- domain of the PDB round trip for written frames -/
def PdbDom (o : PdbObj α β) : Prop :=
  o.atoms ≠ [] ∧ (splitNl (titleOr o.title)).length < 99999 ∧ ∀ c, o.compnd = some c → (splitNl c).length < 9999

theorem pdbBlockOk_ofObj (o : PdbObj α β) (h : PdbDom o) : PdbBlockOk (pdbBlockOfObj o) := by
  obtain ⟨t, c, a, b⟩ := o
  obtain ⟨h1, h2, h3⟩ := h
  refine ⟨h1, by simp [pdbBlockOfObj], by simp [pdbBlockOfObj], h2, ?_⟩
  cases c with
  | none => simp [pdbBlockOfObj]
  | some c => exact h3 c rfl

theorem mem_pdbMultiAux (key l : Line) : ∀ (ls : List Line) (i : Nat), l ∈ pdbMultiAux key i ls → ∃ r, l = key ++ r
  | [], _, h => by simp [pdbMultiAux] at h
  | x :: ls, i, h => by
    simp only [pdbMultiAux, List.mem_cons] at h
    cases h with
    | inl h => exact ⟨rjust (10 - key.length) (natDigits (i + 2)) ++ ([' '] ++ x), by rw [h]; simp only [List.append_assoc]⟩
    | inr h => exact mem_pdbMultiAux key l ls (i + 1) h

theorem mem_pdbMulti (key l : Line) (ls : List Line) (h : l ∈ pdbMulti key ls) : ∃ r, l = key ++ r := by
  cases ls with
  | nil => simp [pdbMulti] at h
  | cons x ls =>
    simp only [pdbMulti, List.mem_cons] at h
    cases h with
    | inl h => exact ⟨List.replicate (10 - key.length) ' ' ++ x, by rw [h]; simp only [ljust, List.append_assoc]⟩
    | inr h => exact mem_pdbMultiAux key l ls 0 h

def pdbHeader (o : PdbObj α β) : List Line :=
  pdbMulti pTITLE (splitNl (titleOr o.title))
    ++ (match o.compnd with | none => [] | some c => pdbMulti pCOMPND (splitNl c))

theorem pdbDumpOne_split (o : PdbObj α β) :
    pdbDumpOne fa fb o = pdbHeader o ++ ((o.atoms.map (fun a => pATOM ++ [' ', ' '] ++ fa a)
      ++ o.conects.map (fun b => pCONECT ++ fb b)) ++ [pEND]) := by
  obtain ⟨t, c, a, b⟩ := o
  cases c <;> simp [pdbDumpOne, pdbHeader]

theorem pdbHeader_mem (o : PdbObj α β) (l : Line) (h : l ∈ pdbHeader o) :
    (∃ r, l = pTITLE ++ r) ∨ (∃ r, l = pCOMPND ++ r) := by
  obtain ⟨t, c, a, b⟩ := o
  simp only [pdbHeader, List.mem_append] at h
  cases h with
  | inl h => exact Or.inl (mem_pdbMulti _ _ _ h)
  | inr h =>
    cases c with
    | none => simp at h
    | some c => exact Or.inr (mem_pdbMulti _ _ _ h)

theorem pdb_take_header (o : PdbObj α β) (m : Nat) (hm : m ≤ (pdbHeader o).length) :
    ∀ l ∈ (pdbDumpOne fa fb o).take m,
      startsWith pATOM l = false ∧ startsWith pHETATM l = false ∧ startsWith pCONECT l = false := by
  intro l hl
  rw [pdbDumpOne_split, List.take_append_of_le_length hm] at hl
  rcases pdbHeader_mem o l (List.mem_of_mem_take hl) with ⟨r, rfl⟩ | ⟨r, rfl⟩ <;> exact ⟨rfl, rfl, rfl⟩

variable (pa) (pb)

/-- a written frame cut inside its TITLE/COMPND records: no atom record of it is in the file -/
theorem pdb_cut_header (o : PdbObj α β) (m : Nat) (hm : m ≤ (pdbHeader o).length) (ln : Int) :
    ∃ ln', pdbLoadOne pa pb ⟨(pdbDumpOne fa fb o).take m, ln⟩ = .raise .loadError ⟨[], ln'⟩ :=
  pdbGo_no_atoms pa pb _ ln _ (pdb_take_header fa fb o m hm)

variable {pa fa pb fb} (ha : ∀ a, pa (pATOM ++ [' ', ' '] ++ fa a) = some a)
  (hb : ∀ b, pb (pCONECT ++ fb b) = some b)
include ha hb

theorem pdb_block_law (b : PdbBlock α β) (hok : PdbBlockOk b) (rest : List Line) (ln : Int) :
    ∃ ln', pdbLoadOne pa pb ⟨pdbBlockLines fa fb b ++ rest, ln⟩ = .ok (pdbBlockFrame b) ⟨rest, ln'⟩ := by
  obtain ⟨pre, tls, cls, mid, atoms, conects, e⟩ := b
  obtain ⟨hat, hpre, hmid, htl, hcl⟩ := hok
  simp only at hat hpre hmid htl hcl
  have hfound : (false || !atoms.isEmpty) = true := by
    cases atoms with
    | nil => exact absurd rfl hat
    | cons _ _ => rfl
  refine ⟨ln + pre.length + tls.length + cls.length + mid.length + atoms.length + conects.length + 1, ?_⟩
  have hshape : pdbBlockLines fa fb ⟨pre, tls, cls, mid, atoms, conects, e⟩ ++ rest =
      pre ++ (pdbMulti pTITLE tls ++ (pdbMulti pCOMPND cls ++ (mid ++
        (atoms.map (fun a => pATOM ++ [' ', ' '] ++ fa a) ++ (conects.map (fun c => pCONECT ++ fb c) ++
          ((pEND ++ e) :: rest)))))) := by
    simp [pdbBlockLines]
  simp only [pdbLoadOne, hshape]
  rw [pdbGo_skips pre hpre, pdbGo_multi_title htl, pdbGo_multi_compnd hcl, pdbGo_skips mid hmid,
    pdbGo_atoms ha, pdbGo_conects hb, hfound]
  simp [pdbGo, pEND, pTITLE, pCOMPND, pATOM, pHETATM, pCONECT, startsWith, pdbBlockFrame]

theorem pdb_frames :
    FrameLaw pdbSkel (pdbLoadOne pa pb) (pdbBlockLines fa fb) pdbBlockFrame PdbBlockOk :=
  ⟨fun b => by simp [pdbBlockLines], fun _ _ _ _ _ => rfl, pdb_block_law ha hb⟩

/-- the frames `dump_one` writes, as the instance `pdbBlockOfObj` of the general form -/
theorem pdb_obj_frames : FrameLaw pdbSkel (pdbLoadOne pa pb) (pdbDumpOne fa fb) pdbNorm PdbDom :=
  ⟨fun o => by rw [← pdbBlockLines_ofObj]; exact (pdb_frames ha hb).ne _, fun _ _ _ _ _ => rfl,
    fun o hd rest ln => by
      have := pdb_block_law ha hb (pdbBlockOfObj o) (pdbBlockOk_ofObj o hd) rest ln
      rwa [pdbBlockLines_ofObj, pdbBlockFrame_ofObj] at this⟩

/-- a written frame cut after at least one ATOM record and before its END record: `load_one` returns what was
    read with `endReached = false`, i.e. with the LoadWarning "The END is not found" -/
theorem pdb_cut_partial (o : PdbObj α β) (hat : o.atoms ≠ []) (m : Nat)
    (hlo : (pdbHeader o).length < m) (hm : m < (pdbDumpOne fa fb o).length) (ln : Int) :
    ∃ g ln', pdbLoadOne pa pb ⟨(pdbDumpOne fa fb o).take m, ln⟩ = .ok g ⟨[], ln'⟩ ∧ g.endReached = false := by
  rw [pdbDumpOne_split] at hm ⊢
  rw [← List.append_assoc] at hm ⊢
  rw [List.take_append_of_le_length (by simp at hm ⊢; omega)]
  have hany : ((pdbHeader o ++ (o.atoms.map (fun a => pATOM ++ [' ', ' '] ++ fa a)
      ++ o.conects.map (fun b => pCONECT ++ fb b))).take m).any pdbIsAtom = true := by
    obtain ⟨a0, as, hatoms⟩ : ∃ a0 as, o.atoms = a0 :: as := by
      cases h : o.atoms with
      | nil => exact absurd h hat
      | cons a0 as => exact ⟨a0, as, rfl⟩
    obtain ⟨k, rfl⟩ : ∃ k, m = (pdbHeader o).length + (k + 1) := ⟨m - (pdbHeader o).length - 1, by omega⟩
    rw [List.any_eq_true]
    refine ⟨pATOM ++ [' ', ' '] ++ fa a0, ?_, rfl⟩
    rw [List.take_append, List.take_of_length_le (by omega), hatoms]
    simp
  refine (pdbGo_eof _ ln ⟨[], [], [], [], false⟩ false fun l hl => ?_).1 (by rw [hany]; rfl)
  have hl' := List.mem_of_mem_take hl
  simp only [List.mem_append, List.mem_map] at hl'
  rcases hl' with hh | ⟨a, _, rfl⟩ | ⟨b, _, rfl⟩
  · rcases pdbHeader_mem o l hh with ⟨r, rfl⟩ | ⟨r, rfl⟩ <;>
      exact ⟨fun h => absurd (h : false = true) Bool.false_ne_true,
        fun h => absurd (h : false = true) Bool.false_ne_true, fun _ => rfl⟩
  · exact ⟨fun _ => by rw [ha]; rfl, fun h => absurd (h : false = true) Bool.false_ne_true, fun _ => rfl⟩
  · exact ⟨fun h => absurd (h : false = true) Bool.false_ne_true, fun _ => by rw [hb]; rfl, fun _ => rfl⟩

end pdb

section mol2
variable {α β : Type} {bc : Bool} {pa : Line → Option α} {pb : Line → Option β}

/-- a line that both `mol2.load_many`'s scan and `mol2.load_one`'s section loop pass over -/
def inert (l : Line) : Bool :=
  l.isEmpty || (match words l with | [] => false | w :: _ => w != tMOLECULE && w != tATOM && w != tBOND)

/-- what may follow a MOL2 frame and its trailing comment lines: the end of the file or the next MOLECULE record -/
def MolStart (tl : List Line) : Prop := tl = [] ∨ ∃ m t, tl = m :: t ∧ (words m).head? = some tMOLECULE

theorem inert_not_mol (l : Line) (h : inert l = true) : (words l).head? ≠ some tMOLECULE := by
  unfold inert at h
  cases l with
  | nil => simp [words, wordsAux]
  | cons c t =>
    cases hw : words (c :: t) with
    | nil => simp
    | cons w ws => rw [hw] at h; simp at h; simp [h.1]

theorem mol2Go_inert {l : Line} (h : inert l = true) {fuel : Nat} {hdr : Option Mol2Hdr}
    {res : Option (Mol2Frame α β)} {t : List Line} {ln : Int} :
    mol2Go bc pa pb (fuel + 1) hdr res ⟨l :: t, ln⟩ = mol2Go bc pa pb fuel hdr res ⟨t, ln + 1⟩ := by
  rw [mol2Go]
  simp only [next_cons]
  by_cases he : l.isEmpty
  · simp [he]
  · unfold inert at h
    simp [he] at h
    cases hw : words l with
    | nil => simp [hw] at h
    | cons w ws => simp [hw] at h; simp [h, he]

theorem mol2Go_inerts {fuel : Nat} {hdr : Option Mol2Hdr} {res : Option (Mol2Frame α β)} {t : List Line} :
    ∀ {sk : List Line}, (∀ l ∈ sk, inert l = true) → ∀ {ln : Int},
    mol2Go bc pa pb (fuel + sk.length) hdr res ⟨sk ++ t, ln⟩ = mol2Go bc pa pb fuel hdr res ⟨t, ln + sk.length⟩
  | [], _, ln => by simp
  | l :: sk, h, ln => by
    simp only [List.length_cons, List.cons_append, ← Nat.add_assoc]
    rw [mol2Go_inert (h l (by simp)), mol2Go_inerts fun x hx => h x (by simp [hx])]
    congr 2; push_cast; omega

/- The record tags as explicit characters, so that facts about them are evaluated without decoding a string. -/
theorem tMOLECULE_eq :
    tMOLECULE = ['@', '<', 'T', 'R', 'I', 'P', 'O', 'S', '>', 'M', 'O', 'L', 'E', 'C', 'U', 'L', 'E'] := by
  unfold tMOLECULE; rw [Iodata.Chars.toList_eq_iff]
theorem tATOM_eq : tATOM = ['@', '<', 'T', 'R', 'I', 'P', 'O', 'S', '>', 'A', 'T', 'O', 'M'] := by
  unfold tATOM; rw [Iodata.Chars.toList_eq_iff]
theorem tBOND_eq : tBOND = ['@', '<', 'T', 'R', 'I', 'P', 'O', 'S', '>', 'B', 'O', 'N', 'D'] := by
  unfold tBOND; rw [Iodata.Chars.toList_eq_iff]

theorem words_tMOLECULE : words tMOLECULE = [tMOLECULE] := by rw [tMOLECULE_eq]; decide +kernel
theorem words_tATOM : words tATOM = [tATOM] := by rw [tATOM_eq]; decide +kernel
theorem words_tBOND : words tBOND = [tBOND] := by rw [tBOND_eq]; decide +kernel
theorem tMOLECULE_isEmpty : tMOLECULE.isEmpty = false := by rw [tMOLECULE_eq]; rfl
theorem tATOM_isEmpty : tATOM.isEmpty = false := by rw [tATOM_eq]; rfl
theorem tBOND_isEmpty : tBOND.isEmpty = false := by rw [tBOND_eq]; rfl
theorem tATOM_ne_tMOLECULE : tATOM ≠ tMOLECULE := by rw [tATOM_eq, tMOLECULE_eq]; decide
theorem tBOND_ne_tMOLECULE : tBOND ≠ tMOLECULE := by rw [tBOND_eq, tMOLECULE_eq]; decide
theorem tBOND_ne_tATOM : tBOND ≠ tATOM := by rw [tBOND_eq, tATOM_eq]; decide

theorem mol2Go_header {fuel : Nat} {hdr : Option Mol2Hdr} {tl cl a b : Line} {r : List Line} {na nb : Int}
    (hw : words cl = a :: b :: r) (hna : pyInt a = some na) (hnb : pyInt b = some nb) {t : List Line} {ln : Int} :
    mol2Go bc pa pb (fuel + 1) hdr (none : Option (Mol2Frame α β)) ⟨tMOLECULE :: tl :: cl :: t, ln⟩ =
      mol2Go bc pa pb fuel (some ⟨strip tl, na, nb⟩) none ⟨t, ln + 1 + 1 + 1⟩ := by
  rw [mol2Go]
  simp [words_tMOLECULE, tMOLECULE_isEmpty, hw, hna, hnb]

theorem mol2Go_atom {fa : α → Line} (ha : ∀ a, pa (fa a) = some a) {fuel : Nat} {T : Line} {nb : Int}
    {res : Option (Mol2Frame α β)} {as : List α} {t : List Line} {ln : Int} :
    mol2Go bc pa pb (fuel + 1) (some ⟨T, as.length, nb⟩) res ⟨tATOM :: (as.map fa ++ t), ln⟩ =
      mol2Go bc pa pb fuel (some ⟨T, as.length, nb⟩) (some ⟨T, as, none⟩) ⟨t, ln + 1 + as.length⟩ := by
  rw [mol2Go]
  simp [words_tATOM, tATOM_isEmpty, tATOM_ne_tMOLECULE, readN_map ha]

theorem mol2Go_atom_short {fa : α → Line} (ha : ∀ a, pa (fa a) = some a) {fuel : Nat} {T : Line} {n nb : Int}
    {res : Option (Mol2Frame α β)} {as : List α} (hn : (as.length : Int) < n) {ln : Int} :
    mol2Go bc pa pb (fuel + 1) (some ⟨T, n, nb⟩) res ⟨tATOM :: as.map fa, ln⟩ =
      .raise .stop ⟨[], ln + 1 + as.length + 1⟩ := by
  have hneg : ¬ (n < 0) := by omega
  rw [mol2Go]
  simp [words_tATOM, tATOM_isEmpty, tATOM_ne_tMOLECULE, hneg, readN_short ha as n.toNat (ln + 1) (by omega)]

theorem mol2Go_bond {fb : β → Line} (hb : ∀ b, pb (fb b) = some b) {fuel : Nat} {T : Line} {na : Int}
    {r : Mol2Frame α β} {bs : List β} {t : List Line} {ln : Int} :
    mol2Go bc pa pb (fuel + 1) (some ⟨T, na, bs.length⟩) (some r) ⟨tBOND :: (bs.map fb ++ t), ln⟩ =
      mol2Go bc pa pb fuel (some ⟨T, na, bs.length⟩) (some { r with bonds := some bs }) ⟨t, ln + 1 + bs.length⟩ := by
  rw [mol2Go]
  simp [words_tBOND, tBOND_isEmpty, tBOND_ne_tMOLECULE, tBOND_ne_tATOM, readN_map hb]

theorem mol2Go_bond_short {fb : β → Line} (hb : ∀ b, pb (fb b) = some b) {fuel : Nat} {T : Line} {na n : Int}
    {res : Option (Mol2Frame α β)} {bs : List β} (hn : (bs.length : Int) < n) {ln : Int} :
    mol2Go bc pa pb (fuel + 1) (some ⟨T, na, n⟩) res ⟨tBOND :: bs.map fb, ln⟩ =
      .raise .stop ⟨[], ln + 1 + bs.length + 1⟩ := by
  have hneg : ¬ (n < 0) := by omega
  rw [mol2Go]
  simp [words_tBOND, tBOND_isEmpty, tBOND_ne_tMOLECULE, tBOND_ne_tATOM, hneg,
    readN_short hb bs n.toNat (ln + 1) (by omega)]

theorem mol2Go_eof {fuel : Nat} {hdr : Option Mol2Hdr} {res : Option (Mol2Frame α β)} {ln : Int} :
    mol2Go bc pa pb (fuel + 1) hdr res ⟨[], ln⟩ = mol2Finish bc hdr res ⟨[], ln + 1⟩ := by
  rw [mol2Go]; simp

variable (fc : Nat → Nat → Line) (fa : α → Line) (fb : β → Line)

/-- the seven comment lines `dump_one` prints before the MOLECULE record -/
def mol2Pre : List Line := ["# Mol2 file created with Iodata".toList, [], [], [], [], [], []]

/-- the lines `dump_one` writes after the MOLECULE record line: title, counts, the ATOM section and, if the frame has
    bonds, the BOND section -/
def mol2Body (f : Mol2Frame α β) : List Line :=
  splitNl (titleOr f.title) ++ [fc f.atoms.length (match f.bonds with | none => 0 | some b => b.length), tATOM]
    ++ f.atoms.map fa ++ (match f.bonds with | none => [] | some b => tBOND :: b.map fb)

theorem mol2DumpOne_eq (f : Mol2Frame α β) :
    mol2DumpOne fc fa fb f = mol2Pre ++ tMOLECULE :: mol2Body fc fa fb f := by
  have hh : mol2Head = mol2Pre ++ [tMOLECULE] := rfl
  obtain ⟨t, a, b⟩ := f
  cases b <;> simp [mol2DumpOne, hh, mol2Body]

theorem mol2DumpOne_length (f : Mol2Frame α β) :
    (mol2DumpOne fc fa fb f).length = (mol2Body fc fa fb f).length + 8 := by
  rw [mol2DumpOne_eq, List.length_append, List.length_cons, show mol2Pre.length = 7 from rfl]; omega

theorem mol2Pre_inert : ∀ l ∈ mol2Pre, inert l = true := by
  unfold mol2Pre inert
  rw [Iodata.Chars.toList_lit (by with_reducible rfl), tMOLECULE_eq, tATOM_eq, tBOND_eq]
  decide +kernel

/-- the counts line is printed so that its first two words parse back -/
def Mol2CountsOk (fc : Nat → Nat → Line) : Prop :=
  ∀ na nb, ∃ a b r, words (fc na nb) = a :: b :: r ∧ pyInt a = some (na : Int) ∧ pyInt b = some (nb : Int)

/-- after the last section: comment lines, then the end of the file or the next MOLECULE record end the frame -/
theorem mol2Go_done {sk tl : List Line} (hsk : ∀ l ∈ sk, inert l = true) (htl : MolStart tl) {fuel : Nat}
    (hf : sk.length < fuel) {hdr : Option Mol2Hdr} {r : Mol2Frame α β}
    (hfin : ∀ s, mol2Finish bc hdr (some r) s = .ok r s) {ln : Int} :
    ∃ ln', mol2Go bc pa pb fuel hdr (some r) ⟨sk ++ tl, ln⟩ = .ok r ⟨tl, ln'⟩ := by
  obtain ⟨k, rfl⟩ : ∃ k, fuel = (k + 1) + sk.length := ⟨fuel - sk.length - 1, by omega⟩
  rw [mol2Go_inerts hsk]
  cases htl with
  | inl h => subst h; exact ⟨_, by rw [mol2Go_eof, hfin]⟩
  | inr h =>
    obtain ⟨m, t, rfl, hm⟩ := h
    have h0 : m.isEmpty = false := by
      cases m with
      | nil => simp [words, wordsAux] at hm
      | cons _ _ => rfl
    cases hw : words m with
    | nil => simp [hw] at hm
    | cons w ws =>
      simp [hw] at hm
      exact ⟨ln + sk.length + 1 - 1, by rw [mol2Go]; simp [h0, hw, hm, hfin]⟩

theorem scanMolGo_skip {first : Bool} {m : Line} {t : List Line} (hm : (words m).head? = some tMOLECULE) :
    ∀ {sk : List Line}, (∀ l ∈ sk, inert l = true) → ∀ {ln : Int},
      scanMolGo first (sk ++ m :: t) ln = .go ⟨m :: t, ln + sk.length⟩
  | [], _, ln => by simp [scanMolGo, hm]
  | l :: sk, h, ln => by
    simp only [List.cons_append, scanMolGo, inert_not_mol l (h l (by simp)), if_false,
      scanMolGo_skip hm fun x hx => h x (List.mem_cons_of_mem l hx), List.length_cons]
    congr 2; push_cast; omega

theorem scanMolGo_eof (first : Bool) : ∀ (sk : List Line), (∀ l ∈ sk, (words l).head? ≠ some tMOLECULE) →
    ∀ (ln : Int), scanMolGo first sk ln = if first then .eofErr ⟨[], ln + sk.length + 1⟩ else .eof
  | [], _, ln => by simp [scanMolGo]
  | l :: sk, h, ln => by
    have := scanMolGo_eof first sk (fun x hx => h x (by simp [hx])) (ln + 1)
    simp only [scanMolGo, h l (by simp), if_false, this, List.length_cons]
    cases first <;> simp
    omega

theorem mol2Body_eq (f : Mol2Frame α β) (hnl : '\n' ∉ f.title) :
    mol2Body fc fa fb f = titleOr f.title ::
      fc f.atoms.length (match f.bonds with | none => 0 | some b => b.length) :: tATOM ::
      (f.atoms.map fa ++ (match f.bonds with | none => [] | some b => tBOND :: b.map fb)) := by
  have hT : splitNl (titleOr f.title) = [titleOr f.title] := splitNl_no_nl (titleOr_no_nl hnl)
  obtain ⟨t, a, b⟩ := f
  cases b <;> simp_all [mol2Body]

theorem mol2Body_length (f : Mol2Frame α β) (hnl : '\n' ∉ f.title) :
    (mol2Body fc fa fb f).length =
      3 + f.atoms.length + (match f.bonds with | none => 0 | some b => 1 + b.length) := by
  rw [mol2Body_eq fc fa fb f hnl]
  cases f.bonds <;> simp <;> omega

theorem mol2_cut_head (ha : ∀ a, pa (fa a) = some a) {T C ca cb : Line} {r : List Line} {nb : Int} {atoms : List α}
    (hw : words C = ca :: cb :: r) (hna : pyInt ca = some (atoms.length : Int)) (hnb : pyInt cb = some nb)
    {bsec : List Line} {k : Nat} (hk : k < 3 + atoms.length) {fuel : Nat} (hf : 2 ≤ fuel) {ln : Int} :
    ∃ e s, mol2Go true pa pb fuel none none ⟨tMOLECULE :: (T :: C :: tATOM :: (atoms.map fa ++ bsec)).take k, ln⟩ =
      (.raise e s : Res (Mol2Frame α β)) := by
  obtain ⟨n, rfl⟩ : ∃ n, fuel = n + 1 + 1 := ⟨fuel - 2, by omega⟩
  rcases k with _ | _ | _ | k
  · exact ⟨.stop, ⟨[], ln + 1 + 1⟩, by simp [mol2Go, words_tMOLECULE, tMOLECULE_isEmpty]⟩
  · exact ⟨.stop, ⟨[], ln + 1 + 1 + 1⟩, by simp [mol2Go, words_tMOLECULE, tMOLECULE_isEmpty]⟩
  · exact ⟨.loadError, ⟨[], ln + 1 + 1 + 1 + 1⟩, by
      rw [List.take_succ_cons, List.take_succ_cons, List.take_zero, mol2Go_header hw hna hnb, mol2Go_eof]; rfl⟩
  · have h1 : (atoms.map fa ++ bsec).take k = (atoms.take k).map fa := by
      rw [List.take_append_of_le_length (by simp; omega), List.map_take]
    exact ⟨_, _, by
      rw [List.take_succ_cons, List.take_succ_cons, List.take_succ_cons, h1, mol2Go_header hw hna hnb,
        mol2Go_atom_short ha (by simp; omega)]⟩

theorem mol2_cut_bonds (ha : ∀ a, pa (fa a) = some a) (hb : ∀ b, pb (fb b) = some b) {T C ca cb : Line}
    {r : List Line} {atoms : List α} {bs : List β} (hw : words C = ca :: cb :: r)
    (hna : pyInt ca = some (atoms.length : Int)) (hnb : pyInt cb = some (bs.length : Int)) {i : Nat}
    (hi : i ≤ bs.length) (hne : i = 0 → bs ≠ []) {fuel : Nat} (hf : 3 ≤ fuel) {ln : Int} :
    ∃ e s, mol2Go true pa pb fuel none none
        ⟨tMOLECULE :: (T :: C :: tATOM :: (atoms.map fa ++ tBOND :: bs.map fb)).take (3 + atoms.length + i), ln⟩ =
      (.raise e s : Res (Mol2Frame α β)) := by
  obtain ⟨n, rfl⟩ : ∃ n, fuel = n + 1 + 1 + 1 := ⟨fuel - 3, by omega⟩
  have h1 : (T :: C :: tATOM :: (atoms.map fa ++ tBOND :: bs.map fb)).take (3 + atoms.length + i) =
      T :: C :: tATOM :: (atoms.map fa ++ (tBOND :: bs.map fb).take i) := by
    rw [show 3 + atoms.length + i = (atoms.length + i) + 1 + 1 + 1 by omega]
    simp only [List.take_succ_cons]
    rw [List.take_append, List.take_of_length_le (by simp)]
    simp
  rw [h1, mol2Go_header hw hna hnb, mol2Go_atom ha]
  rcases i with _ | j
  · have hpos : 0 < bs.length := List.length_pos_iff.mpr (hne rfl)
    exact ⟨.loadError, ⟨[], ln + 1 + 1 + 1 + 1 + atoms.length + 1⟩, by
      rw [List.take_zero, mol2Go_eof]; simp [mol2Finish, hpos]⟩
  · exact ⟨_, _, by rw [List.take_succ_cons, ← List.map_take, mol2Go_bond_short hb (by simp; omega)]⟩

theorem mol2Body_cut_empty_bonds (f : Mol2Frame α β) (h : f.bonds = some []) :
    (mol2Body fc fa fb f).take ((mol2Body fc fa fb f).length - 1) = mol2Body fc fa fb { f with bonds := none } := by
  obtain ⟨title, atoms, bonds⟩ := f
  simp only at h
  subst h
  simp only [mol2Body, List.map_nil, List.append_nil]
  rw [List.take_append, List.take_of_length_le (by simp)]
  simp

theorem mol2_runLoop_skip {tsk tl : List Line} (htsk : ∀ l ∈ tsk, inert l = true) (htl : MolStart tl)
    {fuel : Nat} (hf : 0 < fuel) {first : Bool} {ln : Int} :
    runLoop mol2Skel (mol2LoadOne true pa pb) fuel first ⟨tsk ++ tl, ln⟩ =
      runLoop mol2Skel (mol2LoadOne true pa pb) fuel first ⟨tl, ln + tsk.length⟩ := by
  obtain ⟨k, rfl⟩ : ∃ k, fuel = k + 1 := ⟨fuel - 1, by omega⟩
  cases htl with
  | inl h =>
    subst h
    have h1 := scanMolGo_eof first tsk (fun l hl => inert_not_mol l (htsk l hl)) ln
    simp only [runLoop, mol2Skel, runPeek, List.append_nil, h1]
    cases first <;> simp [scanMolGo]
  | inr h =>
    obtain ⟨m, t, rfl, hm⟩ := h
    simp only [runLoop, mol2Skel, runPeek, scanMolGo_skip hm htsk]
    simp [scanMolGo, hm]

variable {fc fa fb} (hc : Mol2CountsOk fc) (ha : ∀ a, pa (fa a) = some a) (hb : ∀ b, pb (fb b) = some b)
include hc ha hb

theorem mol2_loadOne_frame {f : Mol2Frame α β} (hnl : '\n' ∉ f.title) {sk tl : List Line}
    (hsk : ∀ l ∈ sk, inert l = true) (htl : MolStart tl) (ln : Int) :
    ∃ ln', mol2LoadOne true pa pb ⟨tMOLECULE :: (mol2Body fc fa fb f ++ (sk ++ tl)), ln⟩ =
      .ok (mol2Norm f) ⟨tl, ln'⟩ := by
  unfold mol2LoadOne
  obtain ⟨k, hk⟩ := Nat.exists_eq_add_of_le' (show 3 ≤
    (Lit.mk (tMOLECULE :: (mol2Body fc fa fb f ++ (sk ++ tl))) ln).pending.length + 1 by
      simp [mol2Body_length fc fa fb f hnl]; omega)
  have hf : sk.length < k := by simp [mol2Body_length fc fa fb f hnl] at hk; omega
  rw [hk, mol2Body_eq fc fa fb f hnl]
  obtain ⟨title, atoms, bonds⟩ := f
  cases bonds with
  | none =>
    obtain ⟨a, b, r, hw, hna, hnb⟩ := hc atoms.length 0
    simp only [List.cons_append, List.append_nil]
    rw [mol2Go_header hw hna hnb, mol2Go_atom ha]
    exact mol2Go_done hsk htl (by omega) fun s => by simp [mol2Finish]
  | some bs =>
    obtain ⟨a, b, r, hw, hna, hnb⟩ := hc atoms.length bs.length
    simp only [List.cons_append, List.append_assoc]
    rw [mol2Go_header hw hna hnb, mol2Go_atom ha, mol2Go_bond hb]
    exact mol2Go_done hsk htl (by omega) fun s => by simp [mol2Finish]

/-- **MOL2 satisfies `Iterates`**, for a tail of comment lines and then nothing or a MOLECULE record: what follows a
    written frame begins with comment lines (the next frame's, or those of the tail), which the frame's `load_one`
    passes over and which do not matter to the next iteration -/
theorem mol2_iterates (tsk tl : List Line) (htsk : ∀ l ∈ tsk, inert l = true) (htl : MolStart tl) :
    Iterates mol2Skel (mol2LoadOne true pa pb) (mol2DumpOne fc fa fb) mol2Norm (fun f => '\n' ∉ f.title)
      (tsk ++ tl) :=
  ⟨fun f => by simp [mol2DumpOne_eq], fun f fs hnl fuel ln first hf => by
    have hm : (words tMOLECULE).head? = some tMOLECULE := by rw [words_tMOLECULE]; rfl
    obtain ⟨sk', tl', hrest, hsk', htl'⟩ : ∃ sk' tl', fs.flatMap (mol2DumpOne fc fa fb) ++ (tsk ++ tl) = sk' ++ tl' ∧
        (∀ l ∈ sk', inert l = true) ∧ MolStart tl' := by
      cases fs with
      | nil => exact ⟨tsk, tl, rfl, htsk, htl⟩
      | cons g gs =>
        exact ⟨mol2Pre, tMOLECULE :: (mol2Body fc fa fb g ++ (gs.flatMap (mol2DumpOne fc fa fb) ++ (tsk ++ tl))),
          by simp [mol2DumpOne_eq], mol2Pre_inert, Or.inr ⟨_, _, rfl, hm⟩⟩
    rw [hrest] at hf ⊢
    rw [mol2DumpOne_eq, List.append_assoc, List.cons_append]
    obtain ⟨ln', hl⟩ := mol2_loadOne_frame hc ha hb hnl hsk' htl' (ln + mol2Pre.length)
    exact ⟨ln' - sk'.length, by
      rw [mol2_runLoop_skip hsk' htl' (by omega), Int.sub_add_cancel]
      simp only [runLoop, mol2Skel, runPeek, scanMolGo_skip hm mol2Pre_inert, hl]⟩⟩

/-- a proper prefix of a written frame (cut after the MOLECULE record line and `k` further lines) makes `load_one`
    raise — except the one cut that only removes the header line of an EMPTY bond section, which leaves a complete
    written frame without bond section (`mol2Body_cut_empty_bonds`). -/
theorem mol2_cut_raises (f : Mol2Frame α β) (hnl : '\n' ∉ f.title) (k : Nat) (hk : k < (mol2Body fc fa fb f).length)
    (hex : ¬ (f.bonds = some [] ∧ k + 1 = (mol2Body fc fa fb f).length)) (ln : Int) :
    ∃ e s, mol2LoadOne true pa pb ⟨tMOLECULE :: (mol2Body fc fa fb f).take k, ln⟩ = .raise e s := by
  rw [mol2Body_length fc fa fb f hnl] at hk hex
  rw [mol2Body_eq fc fa fb f hnl]
  obtain ⟨title, atoms, bonds⟩ := f
  unfold mol2LoadOne
  cases bonds with
  | none =>
    obtain ⟨a, b, r, hw, hna, hnb⟩ := hc atoms.length 0
    exact mol2_cut_head fa ha hw hna hnb (by simpa using hk) (by simp)
  | some bs =>
    obtain ⟨a, b, r, hw, hna, hnb⟩ := hc atoms.length bs.length
    by_cases hka : k < 3 + atoms.length
    · exact mol2_cut_head fa ha hw hna hnb hka (by simp)
    · obtain ⟨i, rfl⟩ : ∃ i, k = 3 + atoms.length + i := ⟨k - (3 + atoms.length), by omega⟩
      simp only at hk hex
      exact mol2_cut_bonds fa fb ha hb hw hna hnb (by omega) (fun h0 e => hex ⟨by rw [e], by subst h0 e; simp⟩)
        (by simp; omega)

end mol2

/-- the SDF counts line is printed so that the reader's column cuts recover both numbers and the V2000 tag -/
def SdfCountsOk (fc : Nat → Nat → Line) : Prop :=
  ∀ na nb, pyInt ((fc na nb).take 3) = some (na : Int) ∧ pyInt (((fc na nb).drop 3).take 3) = some (nb : Int) ∧
    lastWordUpper (fc na nb) = some ['V', '2', '0', '0', '0'] ∧ isBlank (fc na nb) = false

theorem xyz_loadOne_dump {α : Type} (showNat : Nat → Line) (pa : Line → Option α) (fa : α → Line)
    (hs : ∀ n, pyInt (showNat n) = some (n : Int)) (h : ∀ a, pa (fa a) = some a)
    (f : XyzFrame α) (hnl : '\n' ∉ f.title) (rest : List Line) (ln : Int) :
    ∃ ln', xyzLoadOne pa ⟨xyzDumpOne showNat fa f ++ rest, ln⟩ = .ok (xyzNorm f) ⟨rest, ln'⟩ :=
  ⟨ln + 1 + 1 + f.atoms.length, by
    simp [xyzDumpOne, splitNl_no_nl (titleOr_no_nl hnl), xyzLoadOne, hs, xyzNorm, readN_map h]⟩

theorem xyz_frames {α : Type} {showNat : Nat → Line} {pa : Line → Option α} {fa : α → Line}
    (hs : ∀ n, pyInt (showNat n) = some (n : Int)) (hb : ∀ n, isBlank (showNat n) = false)
    (h : ∀ a, pa (fa a) = some a) :
    FrameLaw xyzSkel (xyzLoadOne pa) (xyzDumpOne showNat fa) xyzNorm (fun f => '\n' ∉ f.title) :=
  ⟨fun _ => List.cons_ne_nil _ _, fun _ _ _ _ _ => skipBlank_go (hb _), xyz_loadOne_dump showNat pa fa hs h⟩

theorem sdf_loadOne_dump {α β : Type} (fc : Nat → Nat → Line) (pa : Line → Option α) (fa : α → Line)
    (pb : Line → Option β) (fb : β → Line) (hc : SdfCountsOk fc) (ha : ∀ a, pa (fa a) = some a)
    (hb : ∀ b, pb (fb b) = some b) (f : SdfFrame α β) (hnl : '\n' ∉ f.title) (rest : List Line) (ln : Int) :
    ∃ ln', sdfLoadOne pa pb ⟨sdfDumpOne fc fa fb f ++ rest, ln⟩ = .ok (sdfNorm f) ⟨rest, ln'⟩ := by
  obtain ⟨h1, h2, h3, _⟩ := hc f.atoms.length f.bonds.length
  have hme : (['M', ' ', ' ', 'E', 'N', 'D'] : Line) ≠ sdfEnd := by decide
  -- the counts line parses back by `hc`, the atom and bond blocks by `readN_map`, and the search for `$$$$` passes
  -- `M  END` (`hme`) and stops at the record's own terminator
  exact ⟨ln + 1 + 1 + 1 + 1 + f.atoms.length + f.bonds.length + 1 + 1, by
    simp [sdfDumpOne, splitNl_no_nl (titleOr_no_nl hnl), sdfLoadOne, h1, h2, h3, readN_map ha,
      readN_map hb, sdfFindEndM, sdfFindEnd, hme, sdfNorm]⟩

theorem sdf_frames {α β : Type} {fc : Nat → Nat → Line} {pa : Line → Option α} {fa : α → Line}
    {pb : Line → Option β} {fb : β → Line} (hc : SdfCountsOk fc) (ha : ∀ a, pa (fa a) = some a)
    (hb : ∀ b, pb (fb b) = some b) :
    FrameLaw sdfSkel (sdfLoadOne pa pb) (sdfDumpOne fc fa fb) sdfNorm (fun f => '\n' ∉ f.title) :=
  ⟨fun f => by simp [sdfDumpOne],
    fun f _ _ _ _ => peekPushAll_go ⟨fc f.atoms.length f.bonds.length, by simp [sdfDumpOne], (hc _ _).2.2.2⟩,
    sdf_loadOne_dump fc pa fa pb fb hc ha hb⟩

section gro
variable {α : Type} (showNat : Nat → Line) (pt : Line → Bool) (pa : Line → Option α) (pc : Line → Bool)
  (fa : α → Line) (box : Line)

/-- what a load gives: the title is cut at the first comma when it carries a time stamp `t=` -/
def groNorm (f : XyzFrame α) : XyzFrame α := { f with title := groTitle f.title }

theorem gro_loadOne_render (hs : ∀ n, pyInt (showNat n) = some (n : Int)) (ha : ∀ a, pa (fa a) = some a)
    (hbox : pc box = true) (f : XyzFrame α) (hpt : pt f.title = true) (rest : List Line) (ln : Int) :
    ∃ ln', groLoadOne pt pa pc ⟨groRender showNat fa box f ++ rest, ln⟩ = .ok (groNorm f) ⟨rest, ln'⟩ := by
  exact ⟨ln + 1 + 1 + f.atoms.length + 1, by
    simp [groRender, groLoadOne, hpt, hs, readN_map ha, hbox, groNorm]⟩

theorem gro_frames (hs : ∀ n, pyInt (showNat n) = some (n : Int)) (hb : ∀ n, isBlank (showNat n) = false)
    (ha : ∀ a, pa (fa a) = some a) (hbox : pc box = true) :
    FrameLaw groSkel (groLoadOne pt pa pc) (groRender showNat fa box) groNorm (fun f => pt f.title = true) :=
  ⟨fun _ => List.cons_ne_nil _ _,
    fun f _ _ _ _ => peekPushAll_go ⟨showNat f.atoms.length, by simp [groRender], hb _⟩,
    gro_loadOne_render showNat pt pa pc fa box hs ha hbox⟩

end gro

section ext
variable {α : Type} (showNat : Nat → Line) (pt : Line → Bool) (pa : Line → Option α) (fa : α → Line)

/-- a well-formed extended-XYZ frame: count, title line (`key=value` pairs, `Properties=...`), atom lines.  The
    library has no extended-XYZ writer; like `groRender` this renderer only serves the statements about the reader. -/
def extRender (f : XyzFrame α) : List Line := showNat f.atoms.length :: f.title :: f.atoms.map fa

def extNorm (f : XyzFrame α) : XyzFrame α := { f with title := strip f.title }

theorem ext_loadOne_render (hs : ∀ n, pyInt (showNat n) = some (n : Int)) (ha : ∀ a, pa (fa a) = some a)
    (f : XyzFrame α) (hpt : pt f.title = true) (rest : List Line) (ln : Int) :
    ∃ ln', extLoadOne pt pa ⟨extRender showNat fa f ++ rest, ln⟩ = .ok (extNorm f) ⟨rest, ln'⟩ := by
  exact ⟨ln + 1 + 1 + f.atoms.length, by
    simp [extRender, extLoadOne, xyzLoadOne, hpt, hs, readN_map ha, extNorm]⟩

theorem ext_frames (hs : ∀ n, pyInt (showNat n) = some (n : Int)) (hb : ∀ n, isBlank (showNat n) = false)
    (ha : ∀ a, pa (fa a) = some a) :
    FrameLaw xyzSkel (extLoadOne pt pa) (extRender showNat fa) extNorm (fun f => pt f.title = true) :=
  ⟨fun _ => List.cons_ne_nil _ _, fun _ _ _ _ _ => skipBlank_go (hb _),
    ext_loadOne_render showNat pt pa fa hs ha⟩

end ext
end Iodata.Traj
