/- The 1-D overlap kernel of `Model/Overlap.lean` as a double sum against Gaussian moments and as a linear
functional on polynomials; sums over the model's list loops; what `compute_overlap` returns when it succeeds. -/
import Iodata.Model.Overlap
import Mathlib.Algebra.BigOperators.Intervals
import Mathlib.Algebra.BigOperators.Field
import Mathlib.Algebra.Field.Basic
import Mathlib.Data.Nat.Choose.Basic
import Mathlib.Tactic.Ring
import Mathlib.Tactic.FieldSimp
import Mathlib.Algebra.Polynomial.Basis
import Mathlib.Algebra.Polynomial.Derivative

namespace Iodata.Overlap
open Finset

theorem choose_eq (n k : Nat) : choose n k = Nat.choose n k := by
  induction n generalizing k with
  | zero => cases k <;> simp [choose]
  | succ n ih => cases k with
    | zero => simp [choose]
    | succ k => simp [choose, ih, Nat.choose_succ_succ]

theorem fact2_pos (n : Nat) : 0 < fact2 n := by
  induction n using fact2.induct with
  | case1 => exact Nat.one_pos
  | case2 => exact Nat.one_pos
  | case3 n ih => exact Nat.mul_pos (Nat.succ_pos _) ih

theorem facts_pos (m : Nat) : 0 < facts m := by
  cases m with
  | zero => exact Nat.one_pos
  | succ k => exact fact2_pos k

theorem facts_add_two (m : Nat) : facts (m + 2) = (m + 1) * facts m := by cases m <;> rfl

section
variable {K : Type} [Field K]

theorem sumL_eq_sum (l : List K) : sumL l = l.sum := by
  unfold sumL
  rw [List.sum_eq_foldl]
  simp

theorem list_range_sum (f : Nat → K) (n : Nat) : ((List.range n).map f).sum = ∑ i ∈ range n, f i := by
  induction n with
  | zero => simp
  | succ n ih => simp [List.range_succ, Finset.sum_range_succ, ih]

theorem sum_flatMap {α β : Type} (l : List α) (g : α → List β) (f : β → K) :
    ((l.flatMap g).map f).sum = (l.map fun a => ((g a).map f).sum).sum := by
  induction l with
  | nil => simp
  | cons a t ih => simp [List.flatMap_cons, ih]

theorem pyRange_two_succ (a b : Nat) (ha : a < 2) :
    pyRange a (b + 1) 2 = if b % 2 = a then pyRange a b 2 ++ [b] else pyRange a b 2 := by
  unfold pyRange
  have e : b + 1 + 2 - 1 - a = (b + 2 - 1 - a) + 1 := by omega
  rw [e, Nat.succ_div]
  split
  · have hb : b % 2 = a := by omega
    have h2 : a + 2 * ((b + 2 - 1 - a) / 2) = b := by omega
    rw [if_pos hb, List.range_succ, List.map_append, List.map_singleton, h2]
  · have hb : ¬ b % 2 = a := by omega
    rw [if_neg hb, Nat.add_zero]

theorem pyRange_sum (a b : Nat) (ha : a < 2) (g : Nat → K) :
    ((pyRange a b 2).map g).sum = ∑ j ∈ range b, if j % 2 = a then g j else 0 := by
  induction b with
  | zero =>
    have : (0 + 2 - 1 - a) / 2 = 0 := by omega
    simp [pyRange, this]
  | succ b ih =>
    rw [pyRange_two_succ a b ha, Finset.sum_range_succ, ← ih]
    split <;> simp

/-- the Gaussian moment the code's `integ` stands for: `(m-1)‼ / two_at^(m/2)` for even `m`, `0` for odd `m` -/
def mom (t : K) (m : Nat) : K := if m % 2 = 0 then ((facts m : Nat) : K) / t ^ (m / 2) else 0

theorem kernel_eq_full (n1 n2 : Nat) (x1 x2 t : K) :
    kernel n1 n2 x1 x2 t =
      ∑ i ∈ range (n1 + 1), ∑ j ∈ range (n2 + 1),
        ((Nat.choose n1 i : Nat) : K) * x1 ^ (n1 - i) * (((Nat.choose n2 j : Nat) : K) * x2 ^ (n2 - j)) * mom t (i + j) := by
  unfold kernel kernIdx
  rw [sumL_eq_sum, sum_flatMap, list_range_sum]
  apply Finset.sum_congr rfl
  intro i _
  rw [List.map_map, pyRange_sum _ _ (Nat.mod_lt _ (by norm_num))]
  apply Finset.sum_congr rfl
  intro j _
  by_cases h : j % 2 = i % 2
  · have hm : (i + j) % 2 = 0 := by omega
    simp only [h, if_true, term, mom, hm, choose_eq, Function.comp]
    ring
  · have hm : ¬ (i + j) % 2 = 0 := by omega
    simp [h, mom, hm]


/-! ### the kernel as a linear functional on polynomials -/
open Polynomial

/-- the linear functional `X^m ↦ mom t m` (expectation under a centred Gaussian of variance `1/t`) -/
noncomputable def gaussL (t : K) : K[X] →ₗ[K] K := (basisMonomials K).constr K (mom t)

theorem gaussL_X_pow (t : K) (m : Nat) : gaussL t (X ^ m) = mom t m := by
  rw [← monomial_one_right_eq_X_pow]
  have := (basisMonomials K).constr_basis K (mom t) m
  simpa [coe_basisMonomials, gaussL] using this

theorem gaussL_C_mul_X_pow (t a : K) (m : Nat) : gaussL t (C a * X ^ m) = a * mom t m := by
  rw [C_mul', map_smul, gaussL_X_pow, smul_eq_mul]

theorem kernel_eq_gaussL (n1 n2 : Nat) (x1 x2 t : K) :
    kernel n1 n2 x1 x2 t = gaussL t ((X + C x1) ^ n1 * (X + C x2) ^ n2) := by
  rw [kernel_eq_full, add_pow, add_pow, Finset.sum_mul_sum, map_sum]
  apply Finset.sum_congr rfl
  intro i _
  rw [map_sum]
  apply Finset.sum_congr rfl
  intro j _
  have : X ^ i * C x1 ^ (n1 - i) * ((n1.choose i : ℕ) : K[X]) * (X ^ j * C x2 ^ (n2 - j) * ((n2.choose j : ℕ) : K[X]))
      = C (((n1.choose i : ℕ) : K) * x1 ^ (n1 - i) * (((n2.choose j : ℕ) : K) * x2 ^ (n2 - j))) * X ^ (i + j) := by
    simp only [map_mul, map_pow, map_natCast, pow_add]
    ring
  rw [this, gaussL_C_mul_X_pow]

theorem mom_zero (t : K) : mom t 0 = 1 := by simp [mom, facts]
theorem mom_one (t : K) : mom t 1 = 0 := by simp [mom]

theorem mom_add_two (t : K) (m : Nat) : mom t (m + 2) = ((m + 1 : ℕ) : K) / t * mom t m := by
  simp only [mom, Nat.add_mod_right, Nat.add_div_right m (Nat.succ_pos 1), facts_add_two]
  split
  · rw [pow_succ, Nat.cast_mul, div_mul_div_comm, mul_comm (t ^ (m / 2))]
  · rw [mul_zero]

/-- Gaussian integration by parts (Stein's identity) for the functional -/
theorem gaussL_X_mul (t : K) (p : K[X]) : gaussL t (X * p) = 1 / t * gaussL t (derivative p) := by
  induction p using Polynomial.induction_on' with
  | add p q hp hq => simp only [mul_add, map_add, hp, hq]
  | monomial n a =>
    rw [← C_mul_X_pow_eq_monomial, mul_left_comm, ← pow_succ', gaussL_C_mul_X_pow, derivative_C_mul,
      derivative_X_pow, ← mul_assoc, ← C_mul, gaussL_C_mul_X_pow]
    cases n with
    | zero => simp [mom_one]
    | succ k =>
      rw [mom_add_two, Nat.add_sub_cancel]
      push_cast
      ring

theorem list_sum_comm {α β : Type} (l1 : List α) (l2 : List β) (f : α → β → K) :
    (l1.map fun a => (l2.map fun b => f a b).sum).sum = (l2.map fun b => (l1.map fun a => f a b).sum).sum := by
  induction l1 with
  | nil => simp
  | cons a t ih =>
    simp only [List.map_cons, List.sum_cons, ih]
    rw [← List.sum_map_add]

theorem sum_filterMap {α β : Type} (l : List α) (g : α → Option β) (f : β → K) :
    ((l.filterMap g).map f).sum = (l.map fun a => match g a with | some b => f b | none => 0).sum := by
  induction l with
  | nil => simp
  | cons a t ih =>
    simp only [List.filterMap_cons, List.map_cons, List.sum_cons]
    cases h : g a <;> simp [ih]

/-- the weighted centre of two points moves with them -/
theorem centre_shift (a0 a1 x0 x1 d z : K) (h : a0 + a1 ≠ 0) :
    (a0 * (x0 + d) + a1 * (x1 + d)) / (a0 + a1) - (z + d) = (a0 * x0 + a1 * x1) / (a0 + a1) - z := by
  have e : a0 * (x0 + d) + a1 * (x1 + d) = a0 * x0 + a1 * x1 + d * (a0 + a1) := by ring
  rw [e, add_div, mul_div_cancel_right₀ _ h]; ring

theorem finish_ok (p0r p1r : Except Iodata.Conv.Err (List (Nat × Int))) (raw : Nat → Nat → K) (M : List (List K))
    (h : finish p0r p1r raw = .ok M) : ∃ p0 p1, p0r = .ok p0 ∧ p1r = .ok p1 ∧ M = applyConv p0 p1 raw sgnMul := by
  unfold finish at h
  cases p0r with
  | error e => simp at h
  | ok p0 =>
    cases p1r with
    | error e => simp at h
    | ok p1 => simp at h; exact ⟨p0, p1, rfl, rfl, h.symm⟩

theorem secondArgs_ok {b0 : Basis K} {sh0 : List (Shell K)} {xyz0 : List (V3 K)} {b1 : Option (Basis K)}
    {xyz1 : Option (List (V3 K))} {identical : Bool} {sh1 : List (Shell K)} {conv1 : Iodata.Conv.Table}
    {x1 : List (V3 K)} (h : secondArgs b0 sh0 xyz0 b1 xyz1 = .ok (identical, sh1, conv1, x1)) :
    (b1 = none → identical = true) ∧
      ∀ b, b1 = some b → identical = false ∧ sh1 = segment b.shells ∧ conv1 = b.conventions := by
  unfold secondArgs at h
  split at h
  · cases h
  · cases h; exact ⟨fun _ => rfl, nofun⟩
  · split at h
    · cases h
    · split at h
      · cases h
      · cases h; exact ⟨nofun, fun b hb => by cases hb; exact ⟨rfl, rfl, rfl⟩⟩

end
end Iodata.Overlap
