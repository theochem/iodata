/- Round-trip lemmas for `Model/Decimal.lean`: integers and fixed-point numbers are read back for all values, any width
and any blank padding, with no side condition. -/
import Iodata.Lemmas.Chars
import Iodata.Model.Decimal
namespace Iodata.Decimal
open Iodata.Chars

def digitChars : List Char := ['0','1','2','3','4','5','6','7','8','9']

theorem digitChar_mem (n : Nat) : digitChar n ∈ digitChars := by
  unfold digitChar; split <;> decide

theorem digitChar_prop (P : Char → Prop) (h : ∀ c ∈ digitChars, P c) (n : Nat) : P (digitChar n) :=
  h _ (digitChar_mem n)

theorem isDigitA_digitChar (n : Nat) : isDigitA (digitChar n) = true :=
  digitChar_prop (fun c => isDigitA c = true) (by decide) n
theorem digits_noWs : ∀ c ∈ digitChars, isWs c = false := by decide
theorem isWs_digitChar (n : Nat) : isWs (digitChar n) = false :=
  digitChar_prop (fun c => isWs c = false) digits_noWs n
theorem digitChar_ne_nl (n : Nat) : digitChar n ≠ '\n' :=
  digitChar_prop (fun c => c ≠ '\n') (by decide) n
theorem digitChar_not_sign (n : Nat) : (digitChar n == '-') = false ∧ (digitChar n == '+') = false :=
  digitChar_prop (fun c => (c == '-') = false ∧ (c == '+') = false) (by decide) n

theorem charDigit_digitChar : ∀ n, n < 10 → charDigit? (digitChar n) = some n := by decide

def AllDigits (s : Str) : Prop := ∀ c ∈ s, c ∈ digitChars

theorem allDigits_append {a b : Str} (ha : AllDigits a) (hb : AllDigits b) : AllDigits (a ++ b) :=
  fun c h => (List.mem_append.mp h).elim (ha c) (hb c)
theorem allDigits_single (n : Nat) : AllDigits [digitChar n] :=
  fun _ h => List.mem_singleton.mp h ▸ digitChar_mem n

theorem AllDigits.all {s : Str} (h : AllDigits s) {P : Char → Prop} (hP : ∀ c ∈ digitChars, P c) : ∀ c ∈ s, P c :=
  fun c hc => hP c (h c hc)

theorem AllDigits.noWs {s : Str} (h : AllDigits s) : NoWs s := h.all digits_noWs
theorem AllDigits.digitA {s : Str} (h : AllDigits s) : ∀ c ∈ s, isDigitA c = true := h.all (by decide)
theorem AllDigits.not_mem {s : Str} (h : AllDigits s) {c : Char} (hc : c ∉ digitChars) : c ∉ s := fun hm => hc (h c hm)

theorem allDigits_natToDecF : ∀ f n, AllDigits (natToDecF f n) := by
  intro f; induction f with
  | zero => intro n c h; cases h
  | succ f ih =>
    intro n; unfold natToDecF; split
    · exact allDigits_single n
    · exact allDigits_append (ih _) (allDigits_single _)

theorem allDigits_natToDec (n : Nat) : AllDigits (natToDec n) := allDigits_natToDecF _ _

theorem allDigits_digitsW : ∀ w n, AllDigits (digitsW w n) := by
  intro w; induction w with
  | zero => intro n c h; cases h
  | succ w ih => intro n; exact allDigits_append (ih _) (allDigits_single _)

theorem length_digitsW : ∀ w n, (digitsW w n).length = w := by
  intro w; induction w with
  | zero => intro n; rfl
  | succ w ih => intro n; simp [digitsW, ih]

theorem natToDec_ne_nil (n : Nat) : natToDec n ≠ [] := by
  unfold natToDec natToDecF; split <;> simp

theorem natToDec_head (n : Nat) : ∃ c r, natToDec n = c :: r ∧ c ∈ digitChars := by
  obtain ⟨c, r, e⟩ := List.exists_cons_of_ne_nil (natToDec_ne_nil n)
  exact ⟨c, r, e, allDigits_natToDec n c (e ▸ List.mem_cons_self)⟩

theorem isDigitStr_natToDec (n : Nat) : isDigitStr (natToDec n) = true := by
  simp [isDigitStr, List.isEmpty_eq_false_iff.mpr (natToDec_ne_nil n), List.all_eq_true.mpr (allDigits_natToDec n).digitA]

theorem digitsValGo_append (a b : Str) :
    ∀ acc, digitsValGo acc (a ++ b) = (digitsValGo acc a).bind (fun x => digitsValGo x b) := by
  induction a with
  | nil => intro acc; rfl
  | cons c a ih =>
    intro acc; simp only [List.cons_append, digitsValGo]
    cases charDigit? c with
    | none => rfl
    | some d => exact ih _

theorem digitsValGo_snoc (acc : Nat) (s : Str) (k : Nat) (hk : k < 10) :
    digitsValGo acc (s ++ [digitChar k]) = (digitsValGo acc s).map (· * 10 + k) := by
  rw [digitsValGo_append]
  cases digitsValGo acc s with
  | none => rfl
  | some a => simp [digitsValGo, charDigit_digitChar k hk]

theorem digitsVal_snoc (s : Str) (k : Nat) (hk : k < 10) :
    digitsVal (s ++ [digitChar k]) = (digitsVal s).map (· * 10 + k) := digitsValGo_snoc 0 s k hk

theorem digitsVal_natToDecF : ∀ f n, n < f → digitsVal (natToDecF f n) = some n := by
  intro f; induction f with
  | zero => intro n h; omega
  | succ f ih =>
    intro n h; unfold natToDecF; split
    · rename_i h10; simpa [digitsVal, digitsValGo] using digitsVal_snoc [] n h10
    · rw [digitsVal_snoc _ _ (Nat.mod_lt _ (by omega)), ih _ (by omega)]
      exact congrArg some (show n / 10 * 10 + n % 10 = n by omega)

/-- `int(str(n)) == n` -/
theorem digitsVal_natToDec (n : Nat) : digitsVal (natToDec n) = some n :=
  digitsVal_natToDecF (n + 1) n (by omega)

theorem decToNat_natToDec (n : Nat) : decToNat? (natToDec n) = some n := by
  unfold decToNat?
  simp [List.isEmpty_eq_false_iff.mpr (natToDec_ne_nil n), digitsVal_natToDec]

theorem digitsValGo_digitsW : ∀ w n acc, digitsValGo acc (digitsW w n) = some (acc * 10 ^ w + n % 10 ^ w) := by
  intro w; induction w with
  | zero => intro n acc; simp [digitsW, digitsValGo, Nat.mod_one]
  | succ w ih =>
    intro n acc
    rw [digitsW, digitsValGo_snoc _ _ _ (Nat.mod_lt _ (by omega)), ih]
    refine congrArg some (?_ : (acc * 10 ^ w + n / 10 % 10 ^ w) * 10 + n % 10 = _)
    have h : n % 10 ^ (w + 1) = n / 10 % 10 ^ w * 10 + n % 10 := by
      rw [Nat.pow_succ, Nat.mul_comm (10 ^ w) 10, Nat.mod_mul]; omega
    rw [h, Nat.add_mul, Nat.mul_assoc, ← Nat.pow_succ, Nat.add_assoc]

theorem digitsVal_digitsW (w n : Nat) : digitsVal (digitsW w n) = some (n % 10 ^ w) := by
  simpa [digitsVal] using digitsValGo_digitsW w n 0

theorem digitsVal_digitsW_lt (w n : Nat) (h : n < 10 ^ w) : digitsVal (digitsW w n) = some n := by
  rw [digitsVal_digitsW, Nat.mod_eq_of_lt h]

theorem takeWhile_run {α} (p : α → Bool) (a r : List α) (x : α) (ha : ∀ c ∈ a, p c = true) (hx : p x = false) :
    (a ++ x :: r).takeWhile p = a ∧ (a ++ x :: r).dropWhile p = x :: r := by
  have hx' : ¬ p x = true := by simp [hx]
  exact ⟨by rw [List.takeWhile_append_of_pos ha, List.takeWhile_cons_of_neg hx', List.append_nil],
    by rw [List.dropWhile_append_of_pos ha, List.dropWhile_cons_of_neg hx']⟩

theorem takeWhile_all {α} (p : α → Bool) (a : List α) (ha : ∀ c ∈ a, p c = true) :
    a.takeWhile p = a ∧ a.dropWhile p = [] := by
  simpa using And.intro (List.takeWhile_append_of_pos (l₂ := []) ha) (List.dropWhile_append_of_pos (l₂ := []) ha)

theorem splitSign_digits (s : Str) (h : ∃ c r, s = c :: r ∧ c ∈ digitChars) : splitSign s = (false, s) := by
  obtain ⟨c, r, rfl, hc⟩ := h
  have := (show ∀ c ∈ digitChars, (c == '-') = false ∧ (c == '+') = false by decide) c hc
  simp [splitSign, this.1, this.2]

theorem splitSign_neg (s : Str) : splitSign ('-' :: s) = (true, s) := by simp [splitSign]

/-- the blank that the `' '` sign flag puts in front of a non-negative number -/
def signPad (sp neg : Bool) : Str := if neg then [] else if sp then [' '] else []

theorem signStr_eq (sp neg : Bool) : signStr sp neg = signPad sp neg ++ signStr false neg := by
  cases sp <;> cases neg <;> rfl
theorem allWs_signPad (sp neg : Bool) : AllWs (signPad sp neg) := by cases sp <;> cases neg <;> decide
theorem signStr_noWs (neg : Bool) : NoWs (signStr false neg) := by cases neg <;> decide

theorem splitSign_signStr (neg : Bool) (s : Str) (h : ∃ c r, s = c :: r ∧ c ∈ digitChars) :
    splitSign (signStr false neg ++ s) = (neg, s) := by
  cases neg
  · exact splitSign_digits s h
  · exact splitSign_neg s

/-- a printed number starts with its sign or a digit -/
theorem signed_head (neg : Bool) {s : Str} (h : ∃ c r, s = c :: r ∧ c ∈ digitChars) :
    ∃ c r, signStr false neg ++ s = c :: r ∧ c ∈ '-' :: digitChars := by
  obtain ⟨c, r, rfl, hc⟩ := h
  cases neg
  · exact ⟨c, r, rfl, List.mem_cons_of_mem _ hc⟩
  · exact ⟨'-', c :: r, rfl, List.mem_cons_self⟩

theorem splitSign_strip_signed (sp neg : Bool) (body p q : Str) (hp : AllWs p) (hq : AllWs q) (hb : NoWs body)
    (hh : ∃ c r, body = c :: r ∧ c ∈ digitChars) :
    splitSign (strip (p ++ ((signStr sp neg ++ body) ++ q))) = (neg, body) := by
  have e : p ++ ((signStr sp neg ++ body) ++ q) = (p ++ signPad sp neg) ++ ((signStr false neg ++ body) ++ q) := by
    rw [signStr_eq]; simp only [List.append_assoc]
  rw [e, strip_noWs_pad _ _ q (allWs_append hp (allWs_signPad sp neg)) hq (noWs_append (signStr_noWs neg) hb)]
  exact splitSign_signStr neg body hh

theorem sign_natAbs (e : Int) : (if decide (e < 0) = true then -(e.natAbs : Int) else (e.natAbs : Int)) = e := by
  by_cases h : e < 0 <;> simp [h] <;> omega

theorem intToDec_eq (i : Int) : intToDec i = signStr false (decide (i < 0)) ++ natToDec i.natAbs := by
  cases i with
  | ofNat n => simp [intToDec, signStr]
  | negSucc n => simp [intToDec, signStr, Int.negSucc_lt_zero]

theorem intToDec_noWs (i : Int) : NoWs (intToDec i) := by
  rw [intToDec_eq]; exact noWs_append (signStr_noWs _) (allDigits_natToDec _).noWs

theorem intToDec_ne_nil (i : Int) : intToDec i ≠ [] := by
  rw [intToDec_eq]; exact fun e => natToDec_ne_nil _ (List.append_eq_nil_iff.mp e).2

theorem intToDec_no_nl (i : Int) : '\n' ∉ intToDec i := by
  rw [intToDec_eq]
  exact fun h => (List.mem_append.mp h).elim (by cases decide (i < 0) <;> decide) ((allDigits_natToDec _).not_mem (by decide))

/-- `int(pad + f"{i:d}" + pad') == i` for every integer -/
theorem pyInt_intToDec (p q : Str) (i : Int) (hp : AllWs p) (hq : AllWs q) :
    pyInt (p ++ (intToDec i ++ q)) = some i := by
  unfold pyInt
  rw [intToDec_eq, splitSign_strip_signed false _ _ p q hp hq (allDigits_natToDec _).noWs (natToDec_head _)]
  simp only [decToNat_natToDec]
  exact congrArg some (sign_natAbs i)

theorem pyInt_intToDec_self (i : Int) : pyInt (intToDec i) = some i := by
  simpa using pyInt_intToDec [] [] i allWs_nil allWs_nil

theorem fmtInt_eq (w : Nat) (i : Int) : fmtInt w i = spaces (w - (intToDec i).length) ++ intToDec i := rfl

theorem length_natToDecF_le : ∀ f n w, n < f → n < 10 ^ (w + 1) → (natToDecF f n).length ≤ w + 1 := by
  intro f; induction f with
  | zero => intro n w h; omega
  | succ f ih =>
    intro n w h hw; unfold natToDecF; split
    · exact Nat.le_add_left 1 w
    · cases w with
      | zero => omega
      | succ v =>
        have := ih (n / 10) v (by omega) (Nat.div_lt_of_lt_mul (by rw [Nat.mul_comm, ← Nat.pow_succ]; exact hw))
        rw [List.length_append]; exact Nat.succ_le_succ this

theorem length_natToDec_le (n w : Nat) (h : n < 10 ^ w) (hw : 0 < w) : (natToDec n).length ≤ w := by
  obtain ⟨v, rfl⟩ : ∃ v, w = v + 1 := ⟨w - 1, by omega⟩
  exact length_natToDecF_le (n + 1) n v (by omega) h

theorem fixDigits_chars (d m : Nat) : ∀ c ∈ fixDigits d m, c ∈ digitChars ∨ c = '.' := by
  intro c h; unfold fixDigits at h
  rcases List.mem_append.mp h with h | h
  · exact Or.inl (allDigits_natToDec _ c h)
  · split at h
    · cases h
    · exact (List.mem_cons.mp h).elim Or.inr fun h => Or.inl (allDigits_digitsW _ _ c h)

theorem fixDigits_noWs (d m : Nat) : NoWs (fixDigits d m) :=
  fun c h => (fixDigits_chars d m c h).elim (digits_noWs c) (· ▸ by decide)

theorem fixDigits_head (d m : Nat) : ∃ c r, fixDigits d m = c :: r ∧ c ∈ digitChars := by
  obtain ⟨c, r, h, hc⟩ := natToDec_head (m / 10 ^ d)
  exact ⟨c, r ++ _, by unfold fixDigits; rw [h]; rfl, hc⟩

/-- `float(pad + f"{x:w.df}" + pad')` re-quantised at `d` decimals is `x`, for every `x`
(any width, any padding, with or without the `' '` sign flag, including `-0.000`) -/
theorem pyFix_fixCore (sp : Bool) (d : Nat) (x : Fx) (p q : Str) (hp : AllWs p) (hq : AllWs q) :
    pyFix d (p ++ (fixCore sp d x ++ q)) = some x := by
  obtain ⟨neg, m⟩ := x
  unfold pyFix fixCore
  rw [splitSign_strip_signed sp neg _ p q hp hq (fixDigits_noWs d m) (fixDigits_head d m)]
  have hA := (allDigits_natToDec (m / 10 ^ d)).digitA
  have hne : (natToDec (m / 10 ^ d)).isEmpty = false := List.isEmpty_eq_false_iff.mpr (natToDec_ne_nil _)
  by_cases hd : d = 0
  · subst hd
    have := takeWhile_all isDigitA _ hA
    simp only [fixDigits, if_true, List.append_nil, this.1, this.2, hne]
    simp [digitsVal_natToDec]
  · have := takeWhile_run isDigitA (natToDec (m / 10 ^ d)) (digitsW d (m % 10 ^ d)) '.' hA (by decide)
    simp only [fixDigits, hd, if_false, this.1, this.2, hne, length_digitsW, Bool.false_and,
      Bool.false_or, Nat.lt_irrefl, decide_false, digitsVal_natToDec,
      digitsVal_digitsW_lt d (m % 10 ^ d) (Nat.mod_lt _ (Nat.pow_pos (by omega)))]
    simp only [Nat.sub_self, Nat.pow_zero, Nat.mul_one, Bool.false_eq_true, if_false]
    rw [Nat.div_add_mod' m (10 ^ d)]

theorem pyFix_fmtFix (sp : Bool) (w d : Nat) (x : Fx) (q : Str) (hq : AllWs q) :
    pyFix d (fmtFix sp w d x ++ q) = some x := by
  unfold fmtFix rjust
  rw [List.append_assoc]
  exact pyFix_fixCore sp d x _ q (allWs_spaces _) hq

theorem fixCore_noWs (d : Nat) (x : Fx) : NoWs (fixCore false d x) :=
  noWs_append (signStr_noWs x.neg) (fixDigits_noWs d x.mag)

theorem fmtFix_eq (sp : Bool) (w d : Nat) (x : Fx) :
    fmtFix sp w d x = (spaces (w - (fixCore sp d x).length) ++ signPad sp x.neg) ++ fixCore false d x := by
  simp only [fmtFix, rjust, fixCore, signStr_eq sp, List.append_assoc]

theorem pyFix_fixCore_self (d : Nat) (x : Fx) : pyFix d (fixCore false d x) = some x := by
  simpa using pyFix_fixCore false d x [] [] allWs_nil allWs_nil

theorem fixCore_ne_nil (sp : Bool) (d : Nat) (x : Fx) : fixCore sp d x ≠ [] := by
  obtain ⟨c, r, h, _⟩ := fixDigits_head d x.mag
  unfold fixCore; rw [h]; simp

theorem length_fixDigits_le (d m v : Nat) (h : m < 10 ^ (v + d)) (hv : 0 < v) :
    (fixDigits d m).length ≤ v + (if d = 0 then 0 else d + 1) := by
  have : m / 10 ^ d < 10 ^ v := by
    rw [Nat.div_lt_iff_lt_mul (Nat.pow_pos (by omega)), ← Nat.pow_add]; exact h
  have := length_natToDec_le _ v this hv
  unfold fixDigits
  split <;> simp [length_digitsW] <;> omega

end Iodata.Decimal
