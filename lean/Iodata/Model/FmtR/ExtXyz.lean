/-
Extended XYZ (`iodata/formats/extxyz.py` on top of `xyz.load_one` with `atom_columns`): `load_one`,
`_parse_title`, `_parse_properties`, `_convert_title_value`, transcribed, including the part of `shlex.split`
(POSIX mode) that title lines use: blanks, `"…"`, `'…'`, backslash escapes.

Published layout (ASE extended XYZ): line 1 the number of atoms, line 2 `key=value` pairs separated by blanks,
values with blanks in double quotes; `Lattice="ax ay az bx by bz cx cy cz"` (the three cell vectors one after the
other, Å), `Properties=name:type:ncols:…` typing the columns of the atom lines (`S` string, `R` real, `I` integer,
`L` logical; `species`, `pos`, `Z`, `masses`, `forces`), `pbc="T T T"`, `energy`, other keys free.
Core Lean only.
-/
import Iodata.Model.FmtR.Num
namespace Iodata.FmtR.ExtXyz
open Iodata.Chars Iodata.Decimal Iodata.Fmt Iodata.FmtR

/-! ### `shlex.split(s)` (posix, `whitespace = " \t\r\n"`, `quotes = "'\""`, `escape = "\\"`, `escapedquotes = '"'`) -/

def shWs (c : Char) : Bool := c == ' ' || c == '\t' || c == '\r' || c == '\n'

inductive St where
  | sp | word | dq | sq
  | esc      -- after a backslash outside quotes
  | dqesc    -- after a backslash inside double quotes
  deriving DecidableEq, Repr

/-- `none` = `ValueError` ("No closing quotation" / "No escaped character") -/
def shlexGo : St → Str → Str → Option (List Str)
  | .sp, _, [] => some []
  | .word, cur, [] => some [cur]
  | .dq, _, [] => none
  | .sq, _, [] => none
  | .esc, _, [] => none
  | .dqesc, _, [] => none
  | .sp, _, c :: cs =>
    if shWs c then shlexGo .sp [] cs
    else if c == '"' then shlexGo .dq [] cs
    else if c == '\'' then shlexGo .sq [] cs
    else if c == '\\' then shlexGo .esc [] cs
    else shlexGo .word [c] cs
  | .word, cur, c :: cs =>
    if shWs c then (shlexGo .sp [] cs).map (cur :: ·)
    else if c == '"' then shlexGo .dq cur cs
    else if c == '\'' then shlexGo .sq cur cs
    else if c == '\\' then shlexGo .esc cur cs
    else shlexGo .word (cur ++ [c]) cs
  | .esc, cur, c :: cs => shlexGo .word (cur ++ [c]) cs
  | .dq, cur, c :: cs =>
    if c == '"' then shlexGo .word cur cs
    else if c == '\\' then shlexGo .dqesc cur cs
    else shlexGo .dq (cur ++ [c]) cs
  | .dqesc, cur, c :: cs =>
    if c == '"' || c == '\\' then shlexGo .dq (cur ++ [c]) cs else shlexGo .dq (cur ++ ['\\', c]) cs
  | .sq, cur, c :: cs =>
    if c == '\'' then shlexGo .word cur cs else shlexGo .sq (cur ++ [c]) cs

def shlexSplit (s : Str) : Option (List Str) := shlexGo .sp [] s

/-! ### title values -/

/-- `s.split(sep)` for a one-character separator -/
def splitOnGo (sep : Char) : Str → Str → List Str
  | cur, [] => [cur]
  | cur, c :: cs => if c == sep then cur :: splitOnGo sep [] cs else splitOnGo sep (cur ++ [c]) cs

def splitOn (sep : Char) (s : Str) : List Str := splitOnGo sep [] s

/-- `key, value = pair.split("=", 1)` (`none` when there is no `=`) -/
def splitEq : Str → Str → Option (Str × Str)
  | _, [] => none
  | cur, c :: cs => if c == '=' then some (cur, cs) else splitEq (cur ++ [c]) cs

def mapOpt {α β : Type} (f : α → Option β) : List α → Option (List β)
  | [] => some []
  | a :: as =>
    match f a, mapOpt f as with
    | some b, some bs => some (b :: bs)
    | _, _ => none

/-- `strtobool` with the table of `iodata.utils.STRTOBOOL` -/
def strtobool (tb : List (Str × Bool)) (s : Str) : Option Bool := lookupK tb (lower s)

inductive TVal where
  | int (n : Nat)
  | num (x : Num)
  | bool (b : Bool)
  | str (s : Str)
  | ints (l : List Int)
  | nums (l : List Num)
  | bools (l : List Bool)
  | strs (l : List Str)
  deriving DecidableEq, Repr

/-- `_convert_title_value` -/
def convertValue (tb : List (Str × Bool)) (value : Str) : TVal :=
  let ws := splitWs value
  if ws.length = 1 then
    let v := strip value
    if isDigitStr v then .int ((decToNat? v).getD 0)
    else match pyFloat v with
      | some x => .num x
      | none =>
        match strtobool tb v with
        | some b => .bool b
        | none => .str v
  else
    match mapOpt pyInt ws with
    | some l => .ints l
    | none =>
      match mapOpt pyFloat ws with
      | some l => .nums l
      | none =>
        match mapOpt (strtobool tb) ws with
        | some l => .bools l
        | none => .strs ws

/-! ### `Properties=` -/

inductive Kind where
  | species | pos | mass | force | str | real | int | logical
  deriving DecidableEq, Repr

structure Column where
  target : Str        -- `atnums`, `atcoords`, `atmasses`, `atgradient` or `extra`
  key : Str           -- name in `extra`, empty otherwise
  size : Nat          -- words per atom
  vec : Bool          -- array has a per-atom axis of length `size` (false: one scalar per atom)
  kind : Kind
  deriving DecidableEq, Repr

def group3 {α : Type} : List α → List (α × α × α)
  | a :: b :: c :: r => (a, b, c) :: group3 r
  | _ => []

def dtypeKind (d : Str) : Option Kind :=
  if d = ['S'] then some .str else if d = ['R'] then some .real else if d = ['I'] then some .int
  else if d = ['L'] then some .logical else none

def atnumsCol : Column := ⟨"atnums".toList, [], 1, false, .species⟩

/-- one `name:dtype:shape` triple -/
def propColumn (hasZ hasSpecies : Bool) (p : Str × Str × Str) : R Column :=
  let name := p.1
  if name = "pos".toList then .ok ⟨"atcoords".toList, [], 3, true, .pos⟩
  else if name = "masses".toList then .ok ⟨"atmasses".toList, [], 1, false, .mass⟩
  else if name = "force".toList then .ok ⟨"atgradient".toList, [], 3, true, .force⟩
  else if name = ['Z'] && hasZ then .ok atnumsCol
  else if name = "species".toList && !hasZ && hasSpecies then .ok atnumsCol
  else
    -- `shape_suffix = () if shape == "1" else (int(shape),)` comes before `dtype_map[dtype]`
    match (if p.2.2 = ['1'] then some (1, false) else
            match pyInt p.2.2 with
            | some (.ofNat n) => some (n, true)
            | _ => none) with
    | none => .error .int
    | some (n, vec) =>
      match dtypeKind p.2.1 with
      | none => .error .format
      | some k => .ok ⟨"extra".toList, name, n, vec, k⟩

def mapR {α β : Type} (f : α → R β) : List α → R (List β)
  | [] => .ok []
  | a :: as =>
    match f a with
    | .error e => .error e
    | .ok b =>
      match mapR f as with
      | .error e => .error e
      | .ok bs => .ok (b :: bs)

/-- `_parse_properties` -/
def parseProperties (s : Str) : R (List Column) :=
  let parts := splitOn ':' s
  if parts.length % 3 ≠ 0 then .error .format else
  let ts := group3 parts
  let names := ts.map (·.1)
  mapR (propColumn (names.contains ['Z']) (names.contains "species".toList)) ts

/-! ### the title line -/

structure TitleData where
  columns : Option (List Column)
  energy : Option Num
  cell : Option (List Num)          -- nine numbers, `reshape([3, 3])`: row `i` is numbers `3i … 3i+2`
  charge : Option Num
  extra : List (Str × TVal)          -- assignments to `data["extra"][key]`, in order
  deriving DecidableEq, Repr

def applyPair (tb : List (Str × Bool)) (d : TitleData) (pair : Str) : R TitleData :=
  match splitEq [] pair with
  | none => .ok { d with extra := d.extra ++ [(pair, .bool true)] }
  | some (key, value) =>
    if key = "Properties".toList then
      match parseProperties value with
      | .error e => .error e
      | .ok cols => .ok { d with columns := some cols }
    else if key = "energy".toList then
      match pyFloat value with
      | some x => .ok { d with energy := some x }
      | none => .error .float
    else if key = "Lattice".toList then
      match mapOpt pyFloat (splitWs value) with
      | some l => if l.length = 9 then .ok { d with cell := some l } else .error .format
      | none => .error .float
    else if key = "charge".toList then
      match pyFloat value with
      | some x => .ok { d with charge := some x }
      | none => .error .float
    else .ok { d with extra := d.extra ++ [(key, convertValue tb value)] }

def foldR {α β : Type} (f : β → α → R β) : β → List α → R β
  | b, [] => .ok b
  | b, a :: as =>
    match f b a with
    | .error e => .error e
    | .ok b' => foldR f b' as

/-- `_parse_title`; a title without `Properties` leaves `atom_columns` unbound (UnboundLocalError → LoadError) -/
def parseTitle (tb : List (Str × Bool)) (title : Str) : R (List Column × TitleData) :=
  match shlexSplit title with
  | none => .error .format
  | some pairs =>
    match foldR (applyPair tb) ⟨none, none, none, none, []⟩ pairs with
    | .error e => .error e
    | .ok d =>
      match d.columns with
      | none => .error .format
      | some cols => .ok (cols, d)

/-! ### atom lines -/

inductive Cell where
  | z (n : Nat)
  | num (x : Num)          -- as printed (units / sign are applied by `cellValue`)
  | str (s : Str)
  | int (i : Int)
  | bool (b : Bool)
  deriving DecidableEq, Repr

def loadWord (T : Tables) (tb : List (Str × Bool)) (k : Kind) (w : Str) : R Cell :=
  match k with
  | .species => if isDigitStr w then (optE .int (decToNat? w)).map .z else (optE .sym (T.num? (title w))).map .z
  | .pos | .mass | .force | .real => (optE .float (pyFloat w)).map .num
  | .str => .ok (.str (w.take 25))        -- the array has dtype `U25`
  | .int => (optE .int (pyInt w)).map .int
  | .logical => (optE .format (strtobool tb w)).map .bool

/-- `for ifield in range(size): … loadword(words.pop(0))` -/
def takeWords (T : Tables) (tb : List (Str × Bool)) (k : Kind) : Nat → List Str → R (List Cell × List Str)
  | 0, ws => .ok ([], ws)
  | _ + 1, [] => .error .index
  | n + 1, w :: ws =>
    match loadWord T tb k w with
    | .error e => .error e
    | .ok c =>
      match takeWords T tb k n ws with
      | .error e => .error e
      | .ok (cs, r) => .ok (c :: cs, r)

def loadCols (T : Tables) (tb : List (Str × Bool)) : List Column → List Str → R (List (List Cell))
  | [], _ => .ok []
  | c :: cs, ws =>
    match takeWords T tb c.kind c.size ws with
    | .error e => .error e
    | .ok (cells, r) =>
      match loadCols T tb cs r with
      | .error e => .error e
      | .ok rest => .ok (cells :: rest)

structure Obj where
  title : Str
  data : TitleData
  columns : List Column
  atoms : List (List (List Cell))       -- atom → column → cells
  deriving DecidableEq, Repr

/-- `load_one` -/
def load (T : Tables) (tb : List (Str × Bool)) : List Str → R Obj
  | l0 :: l1 :: rest =>
    match parseTitle tb l1 with
    | .error e => .error e
    | .ok (cols, d) =>
      match pyInt l0 with
      | some (.ofNat n) =>
        match readN (fun l => loadCols T tb cols (splitWs l)) n rest with
        | .error e => .error e
        | .ok (atoms, _) => .ok ⟨strip l1, d, cols, atoms⟩
      | _ => .error .int
  | _ => .error .eof

/-- the three cell vectors: `np.array(numbers).reshape([3, 3])` — vector `i` is numbers `3i, 3i+1, 3i+2` -/
def cellRows (l : List Num) : List (Num × Num × Num) := group3 l

end Iodata.FmtR.ExtXyz

namespace Iodata.FmtR.ExtXyz
open Iodata.Chars Iodata.Decimal Iodata.Fmt Iodata.FmtR

/-! ### the published layout (title line) -/

/-- a column declaration of `Properties=` as the ASE document describes it -/
inductive Prop' where
  | species                         -- `species:S:1`
  | z                               -- `Z:I:1`
  | pos                             -- `pos:R:3`
  | masses                          -- `masses:R:1`
  | force                           -- `force:R:3`
  | other (name : Str) (dtype : Char) (ncols : Nat)
  deriving DecidableEq, Repr

def Prop'.triple : Prop' → List Str
  | .species => ["species".toList, ['S'], ['1']]
  | .z => [['Z'], ['I'], ['1']]
  | .pos => ["pos".toList, ['R'], ['3']]
  | .masses => ["masses".toList, ['R'], ['1']]
  | .force => ["force".toList, ['R'], ['3']]
  | .other n d k => [n, [d], natToDec k]

/-- `Properties` value: all triples joined by `:` -/
def renderProps (ps : List Prop') : Str := List.intercalate [':'] (ps.flatMap Prop'.triple)

def kindOf (d : Char) : Option Kind :=
  if d = 'S' then some .str else if d = 'R' then some .real else if d = 'I' then some .int else if d = 'L' then some .logical else none

/-- what each declaration means (ASE + the iodata documentation): `Z` gives the atomic numbers when present, otherwise
`species`; `pos` → `atcoords` (Å), `masses` → `atmasses` (amu), `force` → minus `atgradient`; everything else goes to
`extra[name]` with the declared type, `ncols = 1` meaning one scalar per atom -/
def colOf (hasZ : Bool) : Prop' → Option Column
  | .species => if hasZ then some ⟨"extra".toList, "species".toList, 1, false, .str⟩ else some atnumsCol
  | .z => some atnumsCol
  | .pos => some ⟨"atcoords".toList, [], 3, true, .pos⟩
  | .masses => some ⟨"atmasses".toList, [], 1, false, .mass⟩
  | .force => some ⟨"atgradient".toList, [], 3, true, .force⟩
  | .other n d k => (kindOf d).map fun kd => ⟨"extra".toList, n, k, decide (k ≠ 1), kd⟩

/-- names that are free for `extra` columns -/
def okOther (n : Str) : Prop :=
  ':' ∉ n ∧ n ≠ "pos".toList ∧ n ≠ "masses".toList ∧ n ≠ "force".toList ∧ n ≠ ['Z'] ∧ n ≠ "species".toList

instance (n : Str) : Decidable (okOther n) := by unfold okOther; infer_instance

def okProp : Prop' → Prop
  | .other n d _ => okOther n ∧ (kindOf d).isSome
  | _ => True

instance (p : Prop') : Decidable (okProp p) := by cases p <;> unfold okProp <;> infer_instance

/-- how a title value is written -/
inductive Quote where
  | bare | dq
  deriving DecidableEq, Repr

def plainCh (c : Char) : Bool := !shWs c && c != '"' && c != '\'' && c != '\\'
def dqCh (c : Char) : Bool := c != '"' && c != '\\'

def renderPair (p : Str × Str × Quote) : Str :=
  match p.2.2 with
  | .bare => p.1 ++ ('=' :: p.2.1)
  | .dq => p.1 ++ ('=' :: '"' :: (p.2.1 ++ ['"']))

def okPair (p : Str × Str × Quote) : Prop :=
  p.1 ≠ [] ∧ (∀ c ∈ p.1, plainCh c = true) ∧
  (match p.2.2 with
   | .bare => ∀ c ∈ p.2.1, plainCh c = true
   | .dq => ∀ c ∈ p.2.1, dqCh c = true)

instance (p : Str × Str × Quote) : Decidable (okPair p) := by
  obtain ⟨k, v, q⟩ := p
  cases q <;> (unfold okPair; simp only; infer_instance)

/-- the title line: pairs separated by one blank, line end -/
def renderTitle (ps : List (Str × Str × Quote)) : Str := List.intercalate [' '] (ps.map renderPair) ++ ['\n']

def stP (d : Nat) : Style := ⟨d, true, none⟩

/-- `Lattice` value: nine numbers separated by one blank -/
def renderLattice (d : Nat) (l : List Num) : Str := List.intercalate [' '] (l.map (renderNum (stP d)))

end Iodata.FmtR.ExtXyz

namespace Iodata.FmtR.ExtXyz

/-- the statements of `_convert_title_value`, `_parse_properties`, `_parse_title`, `load_one` that the model transcribes
(compared with the extracted text in `Props/C03Readers.extxyz_source_shape`) -/
def expectedSkel : List (List (List Char)) :=
  [[['l','i','s','t','_','o','f','_','s','p','l','i','t','s',' ','=',' ','v','a','l','u','e','.','s','p','l','i','t','(',')'], ['i','f',' ','l','e','n','(','l','i','s','t','_','o','f','_','s','p','l','i','t','s',')',' ','=','=',' ','1',':'], ['>','v','a','l','u','e',' ','=',' ','v','a','l','u','e','.','s','t','r','i','p','(',')'], ['>','i','f',' ','v','a','l','u','e','.','i','s','d','i','g','i','t','(',')',':'], ['>','>','c','o','n','v','e','r','t','e','d','_','v','a','l','u','e',' ','=',' ','i','n','t','(','v','a','l','u','e',')'], ['>','e','l','s','e',':'], ['>','>','t','r','y',':'], ['>','>','>','c','o','n','v','e','r','t','e','d','_','v','a','l','u','e',' ','=',' ','f','l','o','a','t','(','v','a','l','u','e',')'], ['>','>','e','x','c','e','p','t',' ','V','a','l','u','e','E','r','r','o','r',':'], ['>','>','>','t','r','y',':'], ['>','>','>','>','c','o','n','v','e','r','t','e','d','_','v','a','l','u','e',' ','=',' ','s','t','r','t','o','b','o','o','l','(','v','a','l','u','e',')'], ['>','>','>','e','x','c','e','p','t',' ','V','a','l','u','e','E','r','r','o','r',':'], ['>','>','>','>','c','o','n','v','e','r','t','e','d','_','v','a','l','u','e',' ','=',' ','v','a','l','u','e'], ['e','l','s','e',':'], ['>','t','r','y',':'], ['>','>','c','o','n','v','e','r','t','e','d','_','v','a','l','u','e',' ','=',' ','n','p','.','a','r','r','a','y','(','l','i','s','t','_','o','f','_','s','p','l','i','t','s',',',' ','d','t','y','p','e','=','i','n','t',')'], ['>','e','x','c','e','p','t',' ','V','a','l','u','e','E','r','r','o','r',':'], ['>','>','t','r','y',':'], ['>','>','>','c','o','n','v','e','r','t','e','d','_','v','a','l','u','e',' ','=',' ','n','p','.','a','r','r','a','y','(','l','i','s','t','_','o','f','_','s','p','l','i','t','s',',',' ','d','t','y','p','e','=','f','l','o','a','t',')'], ['>','>','e','x','c','e','p','t',' ','V','a','l','u','e','E','r','r','o','r',':'], ['>','>','>','t','r','y',':'], ['>','>','>','>','c','o','n','v','e','r','t','e','d','_','v','a','l','u','e',' ','=',' ','n','p','.','a','r','r','a','y','(','[','s','t','r','t','o','b','o','o','l','(','s','p','l','i','t',')',' ','f','o','r',' ','s','p','l','i','t',' ','i','n',' ','l','i','s','t','_','o','f','_','s','p','l','i','t','s',']',',',' ','d','t','y','p','e','=','b','o','o','l',')'], ['>','>','>','e','x','c','e','p','t',' ','V','a','l','u','e','E','r','r','o','r',':'], ['>','>','>','>','c','o','n','v','e','r','t','e','d','_','v','a','l','u','e',' ','=',' ','n','p','.','a','r','r','a','y','(','l','i','s','t','_','o','f','_','s','p','l','i','t','s',',',' ','d','t','y','p','e','=','s','t','r',')'], ['r','e','t','u','r','n',' ','c','o','n','v','e','r','t','e','d','_','v','a','l','u','e']],
   [['a','t','o','m','_','c','o','l','u','m','n','s',' ','=',' ','[',']'], ['d','t','y','p','e','_','m','a','p',' ','=',' ','{','\'','S','\'',':',' ','(','n','p','.','d','t','y','p','e','(','\'','U','2','5','\'',')',',',' ','s','t','r',',',' ','\'','{',':','1','0','s','}','\'','.','f','o','r','m','a','t',')',',',' ','\'','R','\'',':',' ','(','f','l','o','a','t',',',' ','f','l','o','a','t',',',' ','\'','{',':','1','5','.','1','0','f','}','\'','.','f','o','r','m','a','t',')',',',' ','\'','I','\'',':',' ','(','i','n','t',',',' ','i','n','t',',',' ','\'','{',':','1','0','d','}','\'','.','f','o','r','m','a','t',')',',',' ','\'','L','\'',':',' ','(','b','o','o','l',',',' ','s','t','r','t','o','b','o','o','l',',',' ','l','a','m','b','d','a',' ','b','o','o','l','e','a','n',':',' ','\'','T','\'',' ','i','f',' ','b','o','o','l','e','a','n',' ','e','l','s','e',' ','\'','F','\'',')','}'], ['a','t','o','m','_','c','o','l','u','m','n','_','m','a','p',' ','=',' ','{','\'','p','o','s','\'',':',' ','(','\'','a','t','c','o','o','r','d','s','\'',',',' ','N','o','n','e',',',' ','(','3',',',')',',',' ','f','l','o','a','t',',',' ','l','a','m','b','d','a',' ','w','o','r','d',':',' ','f','l','o','a','t','(','w','o','r','d',')',' ','*',' ','a','n','g','s','t','r','o','m',',',' ','l','a','m','b','d','a',' ','v','a','l','u','e',':',' ','f','\'','{','v','a','l','u','e',' ','/',' ','a','n','g','s','t','r','o','m',':','1','5','.','1','0','f','}','\'',')',',',' ','\'','m','a','s','s','e','s','\'',':',' ','(','\'','a','t','m','a','s','s','e','s','\'',',',' ','N','o','n','e',',',' ','(',')',',',' ','f','l','o','a','t',',',' ','l','a','m','b','d','a',' ','w','o','r','d',':',' ','f','l','o','a','t','(','w','o','r','d',')',' ','*',' ','a','m','u',',',' ','l','a','m','b','d','a',' ','v','a','l','u','e',':',' ','f','\'','{','v','a','l','u','e',' ','/',' ','a','m','u',':','1','5','.','1','0','f','}','\'',')',',',' ','\'','f','o','r','c','e','\'',':',' ','(','\'','a','t','g','r','a','d','i','e','n','t','\'',',',' ','N','o','n','e',',',' ','(','3',',',')',',',' ','f','l','o','a','t',',',' ','l','a','m','b','d','a',' ','w','o','r','d',':',' ','-','f','l','o','a','t','(','w','o','r','d',')',',',' ','l','a','m','b','d','a',' ','v','a','l','u','e',':',' ','f','\'','{','-','v','a','l','u','e',':','1','5','.','1','0','f','}','\'',')','}'], ['a','t','n','u','m','_','c','o','l','u','m','n',' ','=',' ','(','\'','a','t','n','u','m','s','\'',',',' ','N','o','n','e',',',' ','(',')',',',' ','i','n','t',',',' ','l','a','m','b','d','a',' ','w','o','r','d',':',' ','i','n','t','(','w','o','r','d',')',' ','i','f',' ','w','o','r','d','.','i','s','d','i','g','i','t','(',')',' ','e','l','s','e',' ','s','y','m','2','n','u','m','[','w','o','r','d','.','t','i','t','l','e','(',')',']',',',' ','l','a','m','b','d','a',' ','a','t','n','u','m',':',' ','f','\'','{','n','u','m','2','s','y','m','[','a','t','n','u','m',']',':','2','s','}','\'',')'], ['s','p','l','i','t','t','e','d','_','p','r','o','p','e','r','t','i','e','s',' ','=',' ','p','r','o','p','e','r','t','i','e','s','.','s','p','l','i','t','(','\'',':','\'',')'], ['i','f',' ','l','e','n','(','s','p','l','i','t','t','e','d','_','p','r','o','p','e','r','t','i','e','s',')',' ','%',' ','3',' ','!','=',' ','0',':'], ['>','r','a','i','s','e',' ','L','o','a','d','E','r','r','o','r','(','f','"','C','a','n','n','o','t',' ','p','a','r','s','e',' ','p','r','o','p','e','r','t','y',' ','f','r','o','m',' ','t','h','e',' ','t','i','t','l','e',' ','l','i','n','e',':',' ','\'','{','p','r','o','p','e','r','t','i','e','s','}','\'','.',' ','T','h','e',' ','e','x','p','e','c','t','e','d',' ','f','o','r','m','a','t',' ','i','s',' ','n','a','m','e',':','d','t','y','p','e',':','s','h','a','p','e','.','"',',',' ','l','i','t',')'], ['n','a','m','e','s',' ','=',' ','s','p','l','i','t','t','e','d','_','p','r','o','p','e','r','t','i','e','s','[',':',':','3',']'], ['d','t','y','p','e','s',' ','=',' ','s','p','l','i','t','t','e','d','_','p','r','o','p','e','r','t','i','e','s','[','1',':',':','3',']'], ['s','h','a','p','e','s',' ','=',' ','s','p','l','i','t','t','e','d','_','p','r','o','p','e','r','t','i','e','s','[','2',':',':','3',']'], ['i','f',' ','\'','Z','\'',' ','i','n',' ','n','a','m','e','s',':'], ['>','a','t','o','m','_','c','o','l','u','m','n','_','m','a','p','[','\'','Z','\'',']',' ','=',' ','a','t','n','u','m','_','c','o','l','u','m','n'], ['e','l','s','e',':'], ['>','i','f',' ','\'','s','p','e','c','i','e','s','\'',' ','i','n',' ','n','a','m','e','s',':'], ['>','>','a','t','o','m','_','c','o','l','u','m','n','_','m','a','p','[','\'','s','p','e','c','i','e','s','\'',']',' ','=',' ','a','t','n','u','m','_','c','o','l','u','m','n'], ['f','o','r',' ','(','n','a','m','e',',',' ','d','t','y','p','e',',',' ','s','h','a','p','e',')',' ','i','n',' ','z','i','p','(','n','a','m','e','s',',',' ','d','t','y','p','e','s',',',' ','s','h','a','p','e','s',')',':'], ['>','i','f',' ','n','a','m','e',' ','i','n',' ','a','t','o','m','_','c','o','l','u','m','n','_','m','a','p',':'], ['>','>','a','t','o','m','_','c','o','l','u','m','n','s','.','a','p','p','e','n','d','(','a','t','o','m','_','c','o','l','u','m','n','_','m','a','p','[','n','a','m','e',']',')'], ['>','e','l','s','e',':'], ['>','>','s','h','a','p','e','_','s','u','f','f','i','x',' ','=',' ','(',')',' ','i','f',' ','s','h','a','p','e',' ','=','=',' ','\'','1','\'',' ','e','l','s','e',' ','(','i','n','t','(','s','h','a','p','e',')',',',')'], ['>','>','a','t','o','m','_','c','o','l','u','m','n','s','.','a','p','p','e','n','d','(','(','\'','e','x','t','r','a','\'',',',' ','n','a','m','e',',',' ','s','h','a','p','e','_','s','u','f','f','i','x',',',' ','*','d','t','y','p','e','_','m','a','p','[','d','t','y','p','e',']',')',')'], ['r','e','t','u','r','n',' ','a','t','o','m','_','c','o','l','u','m','n','s']],
   [['k','e','y','_','v','a','l','u','e','_','p','a','i','r','s',' ','=',' ','s','h','l','e','x','.','s','p','l','i','t','(','t','i','t','l','e',')'], ['d','e','f',' ','l','o','a','d','_','c','e','l','l','v','e','c','s','(','w','o','r','d',')',':','\n',' ',' ',' ',' ','r','e','t','u','r','n',' ','n','p','.','a','r','r','a','y','(','w','o','r','d','.','s','p','l','i','t','(',')',',',' ','d','t','y','p','e','=','f','l','o','a','t',')','.','r','e','s','h','a','p','e','(','[','3',',',' ','3',']',')',' ','*',' ','a','n','g','s','t','r','o','m'], ['i','o','d','a','t','a','_','a','t','t','r','s',' ','=',' ','{','\'','e','n','e','r','g','y','\'',':',' ','(','\'','e','n','e','r','g','y','\'',',',' ','f','l','o','a','t',')',',',' ','\'','L','a','t','t','i','c','e','\'',':',' ','(','\'','c','e','l','l','v','e','c','s','\'',',',' ','l','o','a','d','_','c','e','l','l','v','e','c','s',')',',',' ','\'','c','h','a','r','g','e','\'',':',' ','(','\'','c','h','a','r','g','e','\'',',',' ','f','l','o','a','t',')','}'], ['d','a','t','a',' ','=',' ','{','}'], ['f','o','r',' ','k','e','y','_','v','a','l','u','e','_','p','a','i','r',' ','i','n',' ','k','e','y','_','v','a','l','u','e','_','p','a','i','r','s',':'], ['>','i','f',' ','\'','=','\'',' ','i','n',' ','k','e','y','_','v','a','l','u','e','_','p','a','i','r',':'], ['>','>','k','e','y',',',' ','v','a','l','u','e',' ','=',' ','k','e','y','_','v','a','l','u','e','_','p','a','i','r','.','s','p','l','i','t','(','\'','=','\'',',',' ','1',')'], ['>','>','i','f',' ','k','e','y',' ','=','=',' ','\'','P','r','o','p','e','r','t','i','e','s','\'',':'], ['>','>','>','a','t','o','m','_','c','o','l','u','m','n','s',' ','=',' ','_','p','a','r','s','e','_','p','r','o','p','e','r','t','i','e','s','(','v','a','l','u','e',',',' ','l','i','t',')'], ['>','>','e','l','s','e',':'], ['>','>','>','i','f',' ','k','e','y',' ','i','n',' ','i','o','d','a','t','a','_','a','t','t','r','s',':'], ['>','>','>','>','d','a','t','a','[','i','o','d','a','t','a','_','a','t','t','r','s','[','k','e','y',']','[','0',']',']',' ','=',' ','i','o','d','a','t','a','_','a','t','t','r','s','[','k','e','y',']','[','1',']','(','v','a','l','u','e',')'], ['>','>','>','e','l','s','e',':'], ['>','>','>','>','d','a','t','a','.','s','e','t','d','e','f','a','u','l','t','(','\'','e','x','t','r','a','\'',',',' ','{','}',')','[','k','e','y',']',' ','=',' ','_','c','o','n','v','e','r','t','_','t','i','t','l','e','_','v','a','l','u','e','(','v','a','l','u','e',')'], ['>','e','l','s','e',':'], ['>','>','d','a','t','a','.','s','e','t','d','e','f','a','u','l','t','(','\'','e','x','t','r','a','\'',',',' ','{','}',')','[','k','e','y','_','v','a','l','u','e','_','p','a','i','r',']',' ','=',' ','T','r','u','e'], ['r','e','t','u','r','n',' ','(','a','t','o','m','_','c','o','l','u','m','n','s',',',' ','d','a','t','a',')']],
   [['a','t','o','m','_','l','i','n','e',' ','=',' ','n','e','x','t','(','l','i','t',')'], ['t','i','t','l','e','_','l','i','n','e',' ','=',' ','n','e','x','t','(','l','i','t',')'], ['a','t','o','m','_','c','o','l','u','m','n','s',',',' ','t','i','t','l','e','_','d','a','t','a',' ','=',' ','_','p','a','r','s','e','_','t','i','t','l','e','(','t','i','t','l','e','_','l','i','n','e',',',' ','l','i','t',')'], ['l','i','t','.','b','a','c','k','(','t','i','t','l','e','_','l','i','n','e',')'], ['l','i','t','.','b','a','c','k','(','a','t','o','m','_','l','i','n','e',')'], ['x','y','z','_','d','a','t','a',' ','=',' ','l','o','a','d','_','o','n','e','_','x','y','z','(','l','i','t',',',' ','a','t','o','m','_','c','o','l','u','m','n','s',')'], ['i','f',' ','\'','e','x','t','r','a','\'',' ','i','n',' ','t','i','t','l','e','_','d','a','t','a',' ','a','n','d',' ','\'','e','x','t','r','a','\'',' ','i','n',' ','x','y','z','_','d','a','t','a',':'], ['>','x','y','z','_','d','a','t','a','[','\'','e','x','t','r','a','\'',']','.','u','p','d','a','t','e','(','t','i','t','l','e','_','d','a','t','a','[','\'','e','x','t','r','a','\'',']',')'], ['t','i','t','l','e','_','d','a','t','a','.','u','p','d','a','t','e','(','x','y','z','_','d','a','t','a',')'], ['r','e','t','u','r','n',' ','t','i','t','l','e','_','d','a','t','a']]]

end Iodata.FmtR.ExtXyz
