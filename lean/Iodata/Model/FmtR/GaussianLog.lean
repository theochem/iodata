/-
Gaussian log integrals (`iodata/formats/gaussianlog.py`): `load_one`, `_load_twoindex_g09`,
`_load_fourindex_g09`, transcribed; the constants (slices, markers, block step, skipped words/lines,
index order of the four-index call) come from the source through `Gen/LayoutsR.lean`.

Published layout (Gaussian `iop(3/33=5)` output): a symmetric matrix is printed as its lower triangle in
blocks of five columns; a block starting at column `b` has a header line with the column numbers and one
line for every row `r ≥ b`: the row number (I7) and the entries `(r, b) … (r, min(r, b+4))`, each `D14.6`.
Two-electron integrals: ` I=%3d J=%3d K=%3d L=%3d Int=%20.12D` in chemists' notation `(ij|kl)`.
Core Lean only.
-/
import Iodata.Model.FmtR.Num
import Iodata.Model.FmtR.Arr
import Iodata.Model.Helpers
namespace Iodata.FmtR.GLog
open Iodata.Chars Iodata.Decimal Iodata.Fmt Iodata.FmtR

structure Layout where
  nbasisPrefix : Str          -- `line.startswith("    NBasis =")`
  nbasisSl : Nat × Nat        -- `int(line[12:18])`
  termPrefix : Str            -- `" Normal termination of Gaussian"`
  olp : Str
  kin : Str
  na : Str
  er : Str
  blockStep : Nat             -- `block_counter += 5`
  skipWords : Nat             -- `next(lit).split()[1:]`
  fourSkip : Nat              -- `for _i in range(6): next(lit)`
  fourPrefix : Str            -- `" I="`
  i0 : Nat × Nat
  i1 : Nat × Nat
  i2 : Nat × Nat
  i3 : Nat × Nat
  valFrom : Nat               -- `line[29:]`
  fourPerm : List Nat         -- `set_four_index_element(result, i0, i2, i1, i3, value)` → `[0, 2, 1, 3]`
  deriving DecidableEq, Repr

/-- the statements of the two loaders that the model transcribes, as source text (extracted with `ast`) -/
structure Skel where
  nbasisLoop : List Str       -- the statements of the `for line in lit:` scan
  markers : List (Str × Str)  -- `line.startswith(marker)` → action, in the order of the if-chain
  whileTest : Str
  whileBody : List Str        -- statement heads of the while body
  rowBody : List Str          -- statements of `for i in range(nrow)`
  fourHead : List Str         -- statements of `_load_fourindex_g09` before the line loop
  fourBody : List Str         -- statements of the line loop
  deriving DecidableEq, Repr

abbrev Idx2 := Nat × Nat
abbrev Assign2 := List (Idx2 × Num)
abbrev Assign4 := List (Helpers.Idx × Num)

def zero : Num := ⟨false, 0, 0⟩

/-- `float(word.replace("D", "E"))` for every word -/
def parseWords : List Str → R (List Num)
  | [] => .ok []
  | w :: ws =>
    match pyFloat (replaceDE w) with
    | none => .error .float
    | some v =>
      match parseWords ws with
      | .error e => .error e
      | .ok vs => .ok (v :: vs)

/-- `for j, word in enumerate(words): result[r, j+b] = value; result[j+b, r] = value` (`r = i + b`) -/
def assignRow (r b : Nat) : Nat → List Num → Assign2
  | _, [] => []
  | j, v :: vs => ((r, j + b), v) :: ((j + b, r), v) :: assignRow r b (j + 1) vs

/-- indices must be inside the `n × n` array (IndexError → LoadError) -/
def rowInRange (n r b cnt : Nat) : Bool := decide (r < n) && decide (cnt = 0 ∨ cnt - 1 + b < n)

/-- `for i in range(nrow)` of one block: `i` counts up, `c` rows remain -/
def rowsGo (L : Layout) (n b : Nat) : Nat → Nat → List Str → R (Assign2 × List Str)
  | _, 0, ls => .ok ([], ls)
  | _, _ + 1, [] => .error .eof
  | i, c + 1, l :: ls =>
    match parseWords ((splitWs l).drop L.skipWords) with
    | .error e => .error e
    | .ok vs =>
      if rowInRange n (i + b) b vs.length then
        match rowsGo L n b (i + 1) c ls with
        | .error e => .error e
        | .ok (as, rest) => .ok (assignRow (i + b) b 0 vs ++ as, rest)
      else .error .index

/-- `while block_counter < nbasis:` (fuel: the loop runs at most `n` times when the step is positive) -/
def twoGo (L : Layout) (n : Nat) : Nat → Nat → List Str → R (Assign2 × List Str)
  | 0, _, ls => .ok ([], ls)
  | f + 1, b, ls =>
    if b < n then
      match ls with
      | [] => .error .eof                       -- `next(lit)`: the header line
      | _ :: ls =>
        match rowsGo L n b 0 (n - b) ls with
        | .error e => .error e
        | .ok (a, r) =>
          match twoGo L n f (b + L.blockStep) r with
          | .error e => .error e
          | .ok (as, r') => .ok (a ++ as, r')
    else .ok ([], ls)

/-- `_load_twoindex_g09(lit, nbasis)` -/
def loadTwo (L : Layout) (n : Nat) (ls : List Str) : R (Assign2 × List Str) := twoGo L n (n + 1) 0 ls

def intField (sl : Nat × Nat) (line : Str) : R Nat :=
  match pyInt (slice sl.1 sl.2 line) with
  | some (.ofNat (k + 1)) => .ok k        -- `int(...) - 1`, non-negative
  | some _ => .error .index                -- 0 or negative: numpy would wrap around; outside the layout
  | none => .error .int

/-- one ` I=` line: indices in the order of the file (chemists'), value -/
def fourLine (L : Layout) (line : Str) : R (Helpers.Idx × Num) :=
  match intField L.i0 line, intField L.i1 line, intField L.i2 line, intField L.i3 line with
  | .ok a, .ok b, .ok c, .ok d =>
    match pyFloat (replaceDE (sliceFrom L.valFrom line)) with
    | some v => .ok ((a, b, c, d), v)
    | none => .error .float
  | .error e, _, _, _ => .error e
  | _, .error e, _, _ => .error e
  | _, _, .error e, _ => .error e
  | _, _, _, .error e => .error e

/-- `for line in lit: if not line.startswith(" I="): break; …` — the line that ends the loop is consumed -/
def fourGo (L : Layout) (n : Nat) : List Str → R (Assign4 × List Str)
  | [] => .ok ([], [])
  | l :: ls =>
    if startsWith L.fourPrefix l then
      match fourLine L l with
      | .error e => .error e
      | .ok (q, v) =>
        let p := Helpers.applyPat q L.fourPerm
        if p.1 < n ∧ p.2.1 < n ∧ p.2.2.1 < n ∧ p.2.2.2 < n then
          match fourGo L n ls with
          | .error e => .error e
          | .ok (as, rest) => .ok ((Helpers.written p.1 p.2.1 p.2.2.1 p.2.2.2).map (fun w => (w, v)) ++ as, rest)
        else .error .index
    else .ok ([], ls)

/-- `_load_fourindex_g09(lit, nbasis)` -/
def loadFour (L : Layout) (n : Nat) (ls : List Str) : R (Assign4 × List Str) :=
  if ls.length < L.fourSkip then .error .eof else fourGo L n (ls.drop L.fourSkip)

structure Obj where
  nbasis : Nat
  olp : Option Assign2
  kin : Option Assign2
  na : Option Assign2
  er : Option Assign4
  deriving DecidableEq, Repr

/-- the `while True:` loop of `load_one`; fuel ≥ number of remaining lines + 1 -/
def mainGo (L : Layout) (n : Nat) : Nat → List Str → Obj → R Obj
  | 0, _, _ => .error .eof
  | _ + 1, [], _ => .error .eof               -- StopIteration: no termination line
  | f + 1, l :: ls, o =>
    if startsWith L.termPrefix l then .ok o
    else if startsWith L.olp l then
      match loadTwo L n ls with
      | .error e => .error e
      | .ok (a, r) => mainGo L n f r { o with olp := some a }
    else if startsWith L.kin l then
      match loadTwo L n ls with
      | .error e => .error e
      | .ok (a, r) => mainGo L n f r { o with kin := some a }
    else if startsWith L.na l then
      match loadTwo L n ls with
      | .error e => .error e
      | .ok (a, r) => mainGo L n f r { o with na := some a }
    else if startsWith L.er l then
      match loadFour L n ls with
      | .error e => .error e
      | .ok (a, r) => mainGo L n f r { o with er := some a }
    else mainGo L n f ls o

/-- `for line in lit: if line.startswith("    NBasis ="): nbasis = int(line[12:18]); break` -/
def findNBasis (L : Layout) : List Str → R (Nat × List Str)
  | [] => .error .eof
  | l :: ls =>
    if startsWith L.nbasisPrefix l then
      match pyInt (slice L.nbasisSl.1 L.nbasisSl.2 l) with
      | some (.ofNat n) => .ok (n, ls)
      | _ => .error .int
    else findNBasis L ls

/-- `load_one` -/
def load (L : Layout) (ls : List Str) : R Obj :=
  match findNBasis L ls with
  | .error e => .error e
  | .ok (n, rest) => mainGo L n (rest.length + 1) rest ⟨n, none, none, none, none⟩

/-! ### the published layout -/

/-- the D14.6 / D20.12 styles -/
def stD (d : Nat) : Style := ⟨d, true, some 'D'⟩

structure Spec where
  labelW : Nat      -- I7 row label
  colW : Nat        -- D14.6: width 14
  colD : Nat        -- 6 digits
  perBlock : Nat    -- 5 columns
  hdrLead : Nat     -- 3 blanks before the column labels
  idxW : Nat        -- I3 of ` I=%3d`
  valW : Nat        -- D20.12
  valD : Nat
  deriving DecidableEq, Repr

def g09 : Spec := ⟨7, 14, 6, 5, 3, 3, 20, 12⟩

/-- column numbers of the block starting at `b` in an `n × n` matrix -/
def blockCols (S : Spec) (n b : Nat) : List Nat := List.range' b (min S.perBlock (n - b))

def specHeader (S : Spec) (n b : Nat) : Str :=
  spaces S.hdrLead ++ (((blockCols S n b).map fun c => rjust S.colW (natToDec (c + 1))).flatten ++ ['\n'])

/-- row `r` in the block starting at column `b`: entries `(r, b) … (r, min(r, b + perBlock - 1))` -/
def specRow (S : Spec) (f : Nat → Nat → Num) (r b : Nat) : Str :=
  rjust S.labelW (natToDec (r + 1)) ++
    (((List.range (min S.perBlock (r - b + 1))).map fun t => rjust S.colW (renderNum (stD S.colD) (f r (b + t)))).flatten ++ ['\n'])

def specBlock (S : Spec) (n : Nat) (f : Nat → Nat → Num) (b : Nat) : List Str :=
  specHeader S n b :: (List.range (n - b)).map (fun i => specRow S f (b + i) b)

/-- the printed lower triangle of the symmetric `n × n` matrix with entries `f r c` (`c ≤ r`) -/
def specTwo (S : Spec) (n : Nat) (f : Nat → Nat → Num) : List Str :=
  (List.range ((n + S.perBlock - 1) / S.perBlock)).flatMap (fun k => specBlock S n f (S.perBlock * k))

/-- a two-electron integral line (` I=%3d J=%3d K=%3d L=%3d Int=%20.12D`), piece by piece; indices are
zero-based in the model and one-based in the file -/
def specFourPieces (S : Spec) (e : Helpers.Idx × Num) : List Str :=
  [[' ','I','='], rjust S.idxW (natToDec (e.1.1 + 1)) ++ [' '],
   ['J','='], rjust S.idxW (natToDec (e.1.2.1 + 1)) ++ [' '],
   ['K','='], rjust S.idxW (natToDec (e.1.2.2.1 + 1)) ++ [' '],
   ['L','='], rjust S.idxW (natToDec (e.1.2.2.2 + 1)) ++ [' '],
   ['I','n','t','='], rjust S.valW (renderNum (stD S.valD) e.2) ++ ['\n']]

def specFourLine (S : Spec) (e : Helpers.Idx × Num) : Str := (specFourPieces S e).flatten

/-- the two-electron section: the six lines before the list, the list, the line that ends it -/
def specFour (S : Spec) (pre : List Str) (es : List (Helpers.Idx × Num)) (term : Str) : List Str :=
  pre ++ (es.map (specFourLine S) ++ [term])

/-- the entry is printable in its columns: entries leave a blank in front, indices fit -/
def FitsTwo (S : Spec) (x : Num) : Prop := (renderNum (stD S.colD) x).length < S.colW

instance (S : Spec) (x : Num) : Decidable (FitsTwo S x) := by unfold FitsTwo; infer_instance

/-- a two-electron entry is printable: indices fit `I3`, the value fits `D20.12` -/
def FitsFour (S : Spec) (e : Helpers.Idx × Num) : Prop :=
  (natToDec (e.1.1 + 1)).length ≤ S.idxW ∧ (natToDec (e.1.2.1 + 1)).length ≤ S.idxW ∧
  (natToDec (e.1.2.2.1 + 1)).length ≤ S.idxW ∧ (natToDec (e.1.2.2.2 + 1)).length ≤ S.idxW ∧
  (renderNum (stD S.valD) e.2).length ≤ S.valW

instance (S : Spec) (e : Helpers.Idx × Num) : Decidable (FitsFour S e) := by unfold FitsFour; infer_instance

/-- the reader constants the published layout needs -/
def LayoutOK (L : Layout) : Prop :=
  L.skipWords = 1 ∧ L.blockStep = 5 ∧ L.fourSkip = 6 ∧ L.fourPrefix = [' ','I','='] ∧
  L.i0 = (3, 7) ∧ L.i1 = (9, 13) ∧ L.i2 = (15, 19) ∧ L.i3 = (21, 25) ∧ L.valFrom = 29 ∧ L.fourPerm = [0, 2, 1, 3]

instance (L : Layout) : Decidable (LayoutOK L) := by unfold LayoutOK; infer_instance

/-- physicists' index of a chemists' entry `(ij|kl)`: `<ik|jl>` -/
def phys (q : Helpers.Idx) : Helpers.Idx := (q.1, q.2.2.1, q.2.1, q.2.2.2)

/-- the eight positions an entry is stored at -/
def orbit (q : Helpers.Idx) : List Helpers.Idx :=
  Helpers.written (phys q).1 (phys q).2.1 (phys q).2.2.1 (phys q).2.2.2

end Iodata.FmtR.GLog

namespace Iodata.FmtR.GLog
open Iodata.Chars Iodata.Decimal Iodata.Fmt Iodata.FmtR

/-! ### whole files in the published layout -/

/-- a section of the log -/
inductive Sec where
  | two (k : Nat) (f : Nat → Nat → Num)      -- 0 overlap, 1 kinetic, 2 nuclear attraction
  | four (pre : List Str) (es : List (Helpers.Idx × Num)) (term : Str)
  | other (l : Str)                          -- any line that starts with none of the markers

/-- section headings as Gaussian prints them -/
def markerLine : Nat → Str
  | 0 => [' ','*','*','*',' ','O','v','e','r','l','a','p',' ','*','*','*','\n']
  | 1 => [' ','*','*','*',' ','K','i','n','e','t','i','c',' ','E','n','e','r','g','y',' ','*','*','*','\n']
  | _ => [' ','*','*','*','*','*',' ','P','o','t','e','n','t','i','a','l',' ','E','n','e','r','g','y',' ','*','*','*','*','*','\n']

def erMarkerLine : Str :=
  [' ','*','*','*',' ','D','u','m','p','i','n','g',' ','T','w','o','-','E','l','e','c','t','r','o','n',' ',
   'i','n','t','e','g','r','a','l','s',' ','*','*','*','\n']

def termLine : Str :=
  [' ','N','o','r','m','a','l',' ','t','e','r','m','i','n','a','t','i','o','n',' ','o','f',' ','G','a','u','s','s','i','a','n',' ','0','3','\n']

/-- `    NBasis =%4d  MinDer = 0  MaxDer = 0` -/
def nbasisLine (n : Nat) : Str :=
  [' ',' ',' ',' ','N','B','a','s','i','s',' ','='] ++ (rjust 4 (natToDec n) ++
    [' ',' ','M','i','n','D','e','r',' ','=',' ','0',' ',' ','M','a','x','D','e','r',' ','=',' ','0','\n'])

def Sec.lines (S : Spec) (n : Nat) : Sec → List Str
  | .two k f => markerLine k :: specTwo S n f
  | .four pre es term => erMarkerLine :: specFour S pre es term
  | .other l => [l]

def specFile (S : Spec) (pre : List Str) (n : Nat) (secs : List Sec) (post : List Str) : List Str :=
  pre ++ (nbasisLine n :: ((secs.flatMap (Sec.lines S n)) ++ termLine :: post))

/-- the statements the model transcribes (compared with the extracted `Skel` in `Props/C03Readers.glog_source_shape`) -/
def expectedSkel : Skel :=
  ⟨["for line in lit:".toList, ">if line.startswith('    NBasis ='):".toList, ">>nbasis = int(line[12:18])".toList, ">>break".toList],
   [(" Normal termination of Gaussian".toList, "break".toList),
    (" *** Overlap ***".toList, "one_ints['olp'] = _load_twoindex_g09(lit, nbasis)".toList),
    (" *** Kinetic Energy ***".toList, "one_ints['kin_ao'] = _load_twoindex_g09(lit, nbasis)".toList),
    (" ***** Potential Energy *****".toList, "one_ints['na_ao'] = _load_twoindex_g09(lit, nbasis)".toList),
    (" *** Dumping Two-Electron integrals ***".toList, "two_ints['er_ao'] = _load_fourindex_g09(lit, nbasis)".toList)],
   "block_counter < nbasis".toList,
   ["next(lit)".toList, "nrow = nbasis - block_counter".toList, "for i in range(nrow):".toList, "block_counter += 5".toList],
   ["words = next(lit).split()[1:]".toList, "for (j, word) in enumerate(words):".toList,
    ">value = float(word.replace('D', 'E'))".toList,
    ">result[i + block_counter, j + block_counter] = value".toList,
    ">result[j + block_counter, i + block_counter] = value".toList],
   ["result = np.zeros((nbasis, nbasis, nbasis, nbasis))".toList, "for _i in range(6):".toList, ">next(lit)".toList,
    "return result".toList, "for line in lit:".toList],
   ["if not line.startswith(' I='):".toList, ">break".toList, "i0 = int(line[3:7]) - 1".toList, "i1 = int(line[9:13]) - 1".toList,
    "i2 = int(line[15:19]) - 1".toList, "i3 = int(line[21:25]) - 1".toList,
    "value = float(line[29:].replace('D', 'E'))".toList,
    "set_four_index_element(result, i0, i2, i1, i3, value)".toList]⟩

end Iodata.FmtR.GLog
