/-
VASP CHGCAR / LOCPOT (`iodata/formats/chgcar.py`, `locpot.py`; the header is shared with POSCAR):
`_load_vasp_header`, `_load_vasp_grid`, the two `load_one`, transcribed with exact rational arithmetic for the
unit conversions (`angstrom`, `electronvolt` are the repository's constants as exact rationals).

Published layout (VASP manual, CHGCAR/LOCPOT): comment line, scaling factor, three lattice vectors (rows, Å),
element symbols, atom counts, optional `Selective dynamics`, `Direct`/`Cartesian`, one line per atom, a blank
line, the grid dimensions `NGX NGY NGZ`, then the values with **x the fastest index**, a fixed number per line
(the last line may be shorter).  CHGCAR stores `ρ·V_cell`, LOCPOT eV.
Core Lean only.
-/
import Iodata.Model.FmtR.Num
import Iodata.Model.FmtR.Arr
import Iodata.Model.Helpers
namespace Iodata.FmtR.Vasp
open Iodata.Chars Iodata.Decimal Iodata.Fmt Iodata.FmtR

structure Layout where
  selChars : List Char      -- `line[0].lower() in ["s"]`
  cartChars : List Char     -- `line[0].lower() in ["c", "k"]`
  coordWords : Nat          -- `line.split()[:3]`
  deriving DecidableEq, Repr

/-- the statements the model transcribes (source text, extracted with `ast`) -/
structure Skel where
  header : List Str
  grid : List Str
  chgcar : List Str
  locpot : List Str
  deriving DecidableEq, Repr

abbrev Idx3 := Nat × Nat × Nat

/-- `[float(w) for w in words]` -/
def parseFloats : List Str → R (List Num)
  | [] => .ok []
  | w :: ws =>
    match pyFloat w with
    | none => .error .float
    | some v =>
      match parseFloats ws with
      | .error e => .error e
      | .ok vs => .ok (v :: vs)

/-- `[int(w) for w in words]` -/
def parseInts : List Str → R (List Int)
  | [] => .ok []
  | w :: ws =>
    match pyInt w with
    | none => .error .int
    | some v =>
      match parseInts ws with
      | .error e => .error e
      | .ok vs => .ok (v :: vs)

/-- `[sym2num[w] for w in words]` (exact spelling; KeyError → LoadError) -/
def parseSyms (T : Tables) : List Str → R (List Nat)
  | [] => .ok []
  | w :: ws =>
    match T.num? w with
    | none => .error .sym
    | some z =>
      match parseSyms T ws with
      | .error e => .error e
      | .ok zs => .ok (z :: zs)

/-- `for n, c in zip(vasp_atnums, vasp_counts): atnums.extend([n] * c)` -/
def expand : List Nat → List Int → List Nat
  | z :: zs, c :: cs => List.replicate c.toNat z ++ expand zs cs
  | _, _ => []

/-- a row of three numbers (a lattice vector, a position); other lengths make numpy raise later on -/
def row3 (ws : List Str) : R (List Num) :=
  match parseFloats ws with
  | .error e => .error e
  | .ok vs => if vs.length = 3 then .ok vs else .error .format

def firstLower (l : Str) : Char := lowerC (l.headD '\n')

structure Header where
  title : Str
  scaling : Num
  cell : List (List Num)       -- three rows, as printed (Å, before scaling)
  atnums : List Nat
  cartesian : Bool
  coords : List (List Num)     -- one row per atom, as printed
  deriving DecidableEq, Repr

/-- `_load_vasp_header`; returns the header and the unread lines -/
def loadHeader (L : Layout) (T : Tables) : List Str → R (Header × List Str)
  | l0 :: l1 :: c0 :: c1 :: c2 :: le :: lc :: lsw :: rest =>
    match pyFloat (strip l1), row3 (splitWs c0), row3 (splitWs c1), row3 (splitWs c2) with
    | some sc, .ok r0, .ok r1, .ok r2 =>
      match parseSyms T (splitWs le), parseInts (splitWs lc) with
      | .ok zs, .ok cs =>
        let atnums := expand zs cs
        -- the 7th line can optionally indicate selective dynamics
        let sel := L.selChars.contains (firstLower lsw)
        match (if sel then rest else lsw :: rest) with
        | [] => .error .eof
        | ldc :: rest2 =>
          let cart := L.cartChars.contains (firstLower ldc)
          match readN (fun l => row3 ((splitWs l).take L.coordWords)) atnums.length rest2 with
          | .error e => .error e
          | .ok (coords, rest3) => .ok (⟨strip l0, sc, [r0, r1, r2], atnums, cart, coords⟩, rest3)
      | .error e, _ => .error e
      | _, .error e => .error e
    | none, _, _, _ => .error .float
    | _, .error e, _, _ => .error e
    | _, _, .error e, _ => .error e
    | _, _, _, .error e => .error e
  | _ => .error .eof

/-- `for line in lit: shape = np.array([int(w) for w in line.split()]); if len(shape) == 3: break` -/
def findShape : List Str → R (Idx3 × List Str)
  | [] => .error .eof
  | l :: ls =>
    match parseInts (splitWs l) with
    | .error e => .error e
    | .ok [.ofNat a, .ofNat b, .ofNat c] => .ok ((a, b, c), ls)
    | .ok [_, _, _] => .error .format      -- negative dimension: `np.zeros` raises
    | .ok _ => findShape ls

/-- `if not words: words = next(lit).split()` … `float(words.pop(0))`, `n` times: the values in reading
order and the unread lines (words left on the last line are dropped) -/
def pull : Nat → List Str → List Str → R (List Num × List Str)
  | 0, _, ls => .ok ([], ls)
  | n + 1, w :: ws, ls =>
    match pyFloat w with
    | none => .error .float
    | some v =>
      match pull n ws ls with
      | .error e => .error e
      | .ok (vs, r) => .ok (v :: vs, r)
  | _ + 1, [], [] => .error .eof
  | n + 1, [], l :: ls =>
    match splitWs l with
    | [] => .error .index                 -- `[].pop(0)`
    | w :: ws =>
      match pyFloat w with
      | none => .error .float
      | some v =>
        match pull n ws ls with
        | .error e => .error e
        | .ok (vs, r) => .ok (v :: vs, r)

/-- the index triples in the order of `for i2 … for i1 … for i0 …: cube_data[i0, i1, i2] = …` -/
def idxOrder (s : Idx3) : List Idx3 :=
  forRange s.2.2 fun i2 => forRange s.2.1 fun i1 => (List.range s.1).map fun i0 => (i0, i1, i2)

structure Grid where
  hdr : Header
  shape : Idx3
  data : List (Idx3 × Num)      -- item assignments to `cube_data`, in execution order
  deriving DecidableEq, Repr

/-- `_load_vasp_grid` -/
def loadGrid (L : Layout) (T : Tables) (ls : List Str) : R (Grid × List Str) :=
  match loadHeader L T ls with
  | .error e => .error e
  | .ok (h, rest) =>
    match findShape rest with
    | .error e => .error e
    | .ok (s, rest2) =>
      match pull (s.1 * s.2.1 * s.2.2) [] rest2 with
      | .error e => .error e
      | .ok (vs, rest3) => .ok (⟨h, s, (idxOrder s).zip vs⟩, rest3)

/-! ### what the loaded object holds, in atomic units (exact) -/

structure Units where
  angstrom : Rat
  electronvolt : Rat

def rowVal (r : List Num) : List Rat := r.map Num.val

/-- `cellvecs *= angstrom * scaling` -/
def cellvecs (U : Units) (h : Header) : List (List Rat) :=
  h.cell.map fun r => (rowVal r).map (· * (U.angstrom * h.scaling.val))

def dotRow (x : List Rat) (cell : List (List Rat)) : List Rat :=
  [0, 1, 2].map fun j => ((x.zip cell).map fun (xi, ci) => xi * ci.getD j 0).foldl (· + ·) 0

/-- Cartesian: `coords * angstrom * scaling`; Direct: `np.dot(coords, cellvecs)` -/
def atcoords (U : Units) (h : Header) : List (List Rat) :=
  if h.cartesian then h.coords.map fun r => (rowVal r).map (· * U.angstrom * h.scaling.val)
  else h.coords.map fun r => dotRow (rowVal r) (cellvecs U h)

def shapeList (s : Idx3) : List Nat := [s.1, s.2.1, s.2.2]

/-- `axes = cellvecs / shape.reshape(-1, 1)`: row `i` of the cell divided by the `i`-th grid count -/
def axes (U : Units) (g : Grid) : List (List Rat) :=
  ((cellvecs U g.hdr).zip (shapeList g.shape)).map fun (r, n) => r.map (· / (n : Rat))

def toV3 (r : List Rat) : Helpers.V3 := (r.getD 0 0, r.getD 1 0, r.getD 2 0)

/-- `volume(cellvecs)` for three vectors: `|det|` -/
def cellVolume (U : Units) (h : Header) : Rat :=
  match cellvecs U h with
  | [a, b, c] => Helpers.absR (Helpers.det3 (toV3 a) (toV3 b) (toV3 c))
  | _ => 0

inductive Kind where
  | chgcar | locpot
  deriving DecidableEq, Repr

/-- CHGCAR: `data /= volume(cellvecs)`; LOCPOT: `data *= electronvolt` -/
def factor (U : Units) (k : Kind) (h : Header) : Rat :=
  match k with
  | .chgcar => 1 / cellVolume U h
  | .locpot => U.electronvolt

def zero : Num := ⟨false, 0, 0⟩

/-- `cube.data[i, j, k]` of the loaded object -/
def dataAt (U : Units) (k : Kind) (g : Grid) (p : Idx3) : Rat := (getA zero g.data p).val * factor U k g.hdr

/-! ### the published layout -/

/-- number styles of the file: `F` fields with `d` decimals, `E17.11` values (`0.ddd…E+xx`, `-.ddd…E+xx`) -/
def stF (d : Nat) : Style := ⟨d, true, none⟩
def stE (d : Nat) (x : Num) : Style := ⟨d, !x.neg, some 'E'⟩

/-- fields written one after the other, each right-justified in its width -/
def fieldsLine (fs : List (Nat × Str)) : Str := (fs.map fun f => rjust f.1 f.2).flatten ++ ['\n']

structure Spec where
  scaleW : Nat      -- scaling factor: F19.14
  scaleD : Nat
  cellW : Nat       -- lattice vectors: 3F12.6 after one blank
  cellD : Nat
  symW : Nat        -- element symbols: A5
  cntW : Nat        -- counts: I6
  posW : Nat        -- positions: 3F10.6
  posD : Nat
  flagW : Nat       -- selective-dynamics flags: 3(3X,A1)
  dimW : Nat        -- grid dimensions: 3I5
  valW : Nat        -- values: 1X,E17.11
  valD : Nat
  deriving DecidableEq, Repr

def vasp5 : Spec := ⟨19, 14, 13, 6, 5, 6, 10, 6, 4, 5, 18, 11⟩

structure Model where
  title : Str
  scaling : Num
  cell : List (List Num)
  elems : List (Nat × Nat)            -- (atomic number, how many)
  selective : Bool
  cartesian : Bool
  coords : List (List Num)
  flags : List Str                    -- words after a position when selective (`T`/`F`)
  shape : Idx3
  chunks : List (List Num)            -- the grid values, line by line
  tail : List Str                     -- augmentation occupancies etc. (not read)
  deriving DecidableEq, Repr

def Model.vals (m : Model) : List Num := m.chunks.flatten

def selLine : Str := ['S','e','l','e','c','t','i','v','e',' ','d','y','n','a','m','i','c','s','\n']
def modeLine (cart : Bool) : Str :=
  if cart then ['C','a','r','t','e','s','i','a','n','\n'] else ['D','i','r','e','c','t','\n']

def numFields (w d : Nat) (r : List Num) : List (Nat × Str) := r.map fun x => (w, renderNum (stF d) x)

def coordLine (S : Spec) (m : Model) (r : List Num) : Str :=
  fieldsLine (numFields S.posW S.posD r ++ (if m.selective then m.flags.map fun f => (S.flagW, f) else []))

def valLine (S : Spec) (c : List Num) : Str :=
  fieldsLine (c.map fun x => (S.valW, renderNum (stE S.valD x) x))

def dimsLine (S : Spec) (s : Idx3) : Str :=
  fieldsLine [(S.dimW, natToDec s.1), (S.dimW, natToDec s.2.1), (S.dimW, natToDec s.2.2)]

/-- the header block (shared by POSCAR, CHGCAR, LOCPOT) -/
def specHeader (T : Tables) (S : Spec) (m : Model) : List Str :=
  (m.title ++ ['\n']) :: fieldsLine [(S.scaleW, renderNum (stF S.scaleD) m.scaling)]
  :: (m.cell.map (fun r => fieldsLine (numFields S.cellW S.cellD r))
  ++ (fieldsLine (m.elems.map fun e => (S.symW, T.sym e.1))
  :: fieldsLine (m.elems.map fun e => (S.cntW, natToDec e.2))
  :: ((if m.selective then [selLine] else [])
  ++ (modeLine m.cartesian :: m.coords.map (coordLine S m)))))

/-- the grid block: blank line, dimensions, values -/
def specGrid (S : Spec) (m : Model) : List Str :=
  ['\n'] :: dimsLine S m.shape :: m.chunks.map (valLine S)

def specRender (T : Tables) (S : Spec) (m : Model) : List Str :=
  specHeader T S m ++ (specGrid S m ++ m.tail)

/-- values cut into lines of `k` (the last one may be shorter); fuel = number of values -/
def chunkGo {α : Type} (k : Nat) : Nat → List α → List (List α)
  | 0, _ => []
  | _ + 1, [] => []
  | f + 1, x :: xs => (x :: xs).take k :: chunkGo k f ((x :: xs).drop k)

def chunk {α : Type} (k : Nat) (xs : List α) : List (List α) := chunkGo k xs.length xs

def natomOf (elems : List (Nat × Nat)) : Nat := (elems.map (·.2)).foldl (· + ·) 0

/-- the loaded header a model denotes -/
def Model.header (m : Model) : Header :=
  ⟨m.title, m.scaling, m.cell, expand (m.elems.map (·.1)) (m.elems.map fun e => (e.2 : Int)), m.cartesian, m.coords⟩

def okTok (w : Nat) (s : Str) : Prop := NoWs s ∧ s ≠ [] ∧ s.length < w
instance (w : Nat) (s : Str) : Decidable (okTok w s) := by unfold okTok; infer_instance

def okF (w d : Nat) (x : Num) : Prop := x.exp = -(d : Int) ∧ (renderNum (stF d) x).length < w
instance (w d : Nat) (x : Num) : Decidable (okF w d x) := by unfold okF; infer_instance

def okRow (w d : Nat) (r : List Num) : Prop := r.length = 3 ∧ ∀ x ∈ r, okF w d x
instance (w d : Nat) (r : List Num) : Decidable (okRow w d r) := by unfold okRow; infer_instance

def okElem (T : Tables) (S : Spec) (e : Nat × Nat) : Prop :=
  okTok S.symW (T.sym e.1) ∧ T.num? (T.sym e.1) = some e.1 ∧ (natToDec e.2).length < S.cntW
instance (T : Tables) (S : Spec) (e : Nat × Nat) : Decidable (okElem T S e) := by unfold okElem; infer_instance

/-- the documented domain of the header -/
def HeaderDom (L : Layout) (T : Tables) (S : Spec) (m : Model) : Prop :=
  Trimmed m.title ∧ okF S.scaleW S.scaleD m.scaling ∧
  m.cell.length = 3 ∧ (∀ r ∈ m.cell, okRow S.cellW S.cellD r) ∧
  (∀ e ∈ m.elems, okElem T S e) ∧
  m.coords.length = (expand (m.elems.map (·.1)) (m.elems.map fun e => (e.2 : Int))).length ∧
  (∀ r ∈ m.coords, okRow S.posW S.posD r) ∧ (∀ f ∈ m.flags, okTok S.flagW f) ∧
  L.selChars = ['s'] ∧ L.cartChars = ['c', 'k'] ∧ L.coordWords = 3

instance (L : Layout) (T : Tables) (S : Spec) (m : Model) : Decidable (HeaderDom L T S m) := by
  unfold HeaderDom; infer_instance

/-- the documented domain of the grid block: positive dimensions, as many values as grid points, no empty line -/
def GridDom (S : Spec) (m : Model) : Prop :=
  (∀ c ∈ m.chunks, c ≠ [] ∧ ∀ x ∈ c, (renderNum (stE S.valD x) x).length < S.valW) ∧
  m.vals.length = m.shape.1 * m.shape.2.1 * m.shape.2.2 ∧
  (natToDec m.shape.1).length < S.dimW ∧ (natToDec m.shape.2.1).length < S.dimW ∧ (natToDec m.shape.2.2).length < S.dimW

instance (S : Spec) (m : Model) : Decidable (GridDom S m) := by unfold GridDom; infer_instance

end Iodata.FmtR.Vasp

namespace Iodata.FmtR.Vasp

/-- the statements the model transcribes (compared with the extracted `Skel` in `Props/C03Readers.vasp_source_shape`) -/
def expectedSkel : Skel :=
  ⟨["title = next(lit).strip()".toList, "scaling = float(next(lit).strip())".toList,
    "cellvecs = np.array([[float(w) for w in next(lit).split()] for _ in range(3)])".toList,
    "cellvecs *= angstrom * scaling".toList, "vasp_atnums = [sym2num[w] for w in next(lit).split()]".toList,
    "vasp_counts = [int(w) for w in next(lit).split()]".toList, "atnums = []".toList,
    "for (n, c) in zip(vasp_atnums, vasp_counts):".toList, ">atnums.extend([n] * c)".toList, "atnums = np.array(atnums)".toList,
    "line = next(lit)".toList, "if line[0].lower() in ['s']:".toList, ">line = next(lit)".toList,
    "cartesian = line[0].lower() in ['c', 'k']".toList, "atcoords = []".toList, "for _iatom in range(len(atnums)):".toList,
    ">line = next(lit)".toList, ">atcoords.append([float(w) for w in line.split()[:3]])".toList, "if cartesian:".toList,
    ">atcoords = np.array(atcoords) * angstrom * scaling".toList, "else:".toList,
    ">atcoords = np.dot(np.array(atcoords), cellvecs)".toList, "return (title, cellvecs, atnums, atcoords)".toList],
   ["title, cellvecs, atnums, atcoords = _load_vasp_header(lit)".toList, "for line in lit:".toList,
    ">shape = np.array([int(w) for w in line.split()])".toList, ">if len(shape) == 3:".toList, ">>break".toList,
    "cube_data = np.zeros(shape, float)".toList, "words = []".toList, "for i2 in range(shape[2]):".toList,
    ">for i1 in range(shape[1]):".toList, ">>for i0 in range(shape[0]):".toList, ">>>if not words:".toList,
    ">>>>words = next(lit).split()".toList, ">>>cube_data[i0, i1, i2] = float(words.pop(0))".toList,
    "cube = Cube(origin=np.zeros(3), axes=cellvecs / shape.reshape(-1, 1), data=cube_data)".toList,
    "return {'title': title, 'atcoords': atcoords, 'atnums': atnums, 'cellvecs': cellvecs, 'cube': cube}".toList],
   ["result = _load_vasp_grid(lit)".toList, "result['cube'].data[:] /= volume(result['cellvecs'])".toList, "return result".toList],
   ["result = _load_vasp_grid(lit)".toList, "result['cube'].data[:] *= electronvolt".toList, "return result".toList]⟩

def LayoutOK (L : Layout) : Prop := L.selChars = ['s'] ∧ L.cartChars = ['c', 'k'] ∧ L.coordWords = 3
instance (L : Layout) : Decidable (LayoutOK L) := by unfold LayoutOK; infer_instance

/-- a model used for non-vacuity checks: 2×1×3 grid, triclinic cell, selective dynamics, 4 values per line -/
def exampleModel : Model :=
  ⟨['B','N'], ⟨false, 357000000000000, -14⟩,
   [[⟨false, 1000000, -6⟩, ⟨false, 500000, -6⟩, ⟨false, 0, -6⟩], [⟨true, 250000, -6⟩, ⟨false, 2000000, -6⟩, ⟨false, 0, -6⟩],
    [⟨false, 0, -6⟩, ⟨false, 125000, -6⟩, ⟨false, 3000000, -6⟩]],
   [(7, 1), (5, 1)], true, false,
   [[⟨false, 0, -6⟩, ⟨false, 0, -6⟩, ⟨false, 0, -6⟩], [⟨false, 250000, -6⟩, ⟨false, 250000, -6⟩, ⟨true, 250000, -6⟩]],
   [['T'], ['F'], ['T']], (2, 1, 3),
   chunk 4 [⟨false, 78406017013, -7⟩, ⟨true, 65465465497, -10⟩, ⟨false, 0, -11⟩, ⟨false, 1, -11⟩, ⟨true, 99999999999, 88⟩,
     ⟨false, 5, -100⟩], []⟩

end Iodata.FmtR.Vasp
