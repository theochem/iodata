/-
Structural model of wavefunction conversion (C01).  Core Lean only (linked into the driver).

An orbital is a coefficient vector `coeffs : List Int` over the basis functions of a list of
(segmented) shells, read through a convention dictionary `cv`.  It *denotes* the finitely
supported map `den cv shells coeffs : PKey → Int` from primitive keys
`(center, exponent id, l, kind, unsigned label)` — the L2-normalised primitive
`N(α,label)·P_label(r − R_center)·exp(−α|r−R|²)` — to coefficients.  Two descriptions with equal
`den` are the same function of space (no linear independence needed).

Writers are modelled from the object down to the numbers placed in the file, readers from those
numbers back to an object; text scanning is not modelled.  The normalisation scale is an abstract
function `N : exponent id → label → Int` (theorems assume `N ≠ 0`); division by a scale is exact
integer division (the files a writer produces contain multiples).
-/
import Iodata.Model.Conv
namespace Iodata.Wf
open Iodata.Conv

abbrev PKey := Nat × Nat × Nat × Char × Label

/-- a segmented shell: `prims` = (exponent id, contraction coefficient) -/
structure Shell where
  center : Nat
  l : Nat
  kind : Char
  prims : List (Nat × Int)
  deriving Repr, DecidableEq

/-- parsed conventions: `(startswith "-", lstrip "-")` per label, per `(l, kind)` -/
abbrev Cv := Key → List (Bool × Label)

def cvOf (t : Table) : Cv := fun k =>
  match t.find? (fun e => e.1 == k) with
  | some e => e.2.map parse
  | none => []

def Shell.key (s : Shell) : Key := (s.l, s.kind)

/-- sum of the contraction coefficients of the primitives with exponent id `e` -/
def expSum (prims : List (Nat × Int)) (e : Nat) : Int :=
  (prims.map fun p => if p.1 = e then p.2 else 0).sum

def onShell (s : Shell) (κ : PKey) : Bool :=
  decide (κ.1 = s.center) && decide (κ.2.2.1 = s.l) && decide (κ.2.2.2.1 = s.kind)

/-- contribution of one shell with coefficient block `v` in convention `c` -/
def shellDen (s : Shell) (c : List (Bool × Label)) (v : List Int) (κ : PKey) : Int :=
  if onShell s κ then val c v κ.2.2.2.2 * expSum s.prims κ.2.1 else 0

/-- the denotation of a coefficient vector -/
def den (cv : Cv) : List Shell → List Int → PKey → Int
  | [], _, _ => 0
  | s :: ss, coeffs, κ =>
    shellDen s (cv s.key) (coeffs.take (cv s.key).length) κ
      + den cv ss (coeffs.drop (cv s.key).length) κ

def nfun (cv : Cv) (shells : List Shell) : Nat := (shells.map fun s => (cv s.key).length).sum

/-! ### (a) `convert_conventions` applied to a coefficient vector, shell by shell
(`coeffs[permutation] * signs`; the global permutation of `convert_conventions` is the
concatenation of the shifted shell permutations, `Props.C10.convBasisFrom_cons`, `Conv.convBasisFrom_shift` and `Conv.apply_block`). -/
def convert (cv1 cv2 : Cv) : List Shell → List Int → List Int
  | [], _ => []
  | s :: ss, coeffs =>
    apply (convFwd (cv1 s.key) (cv2 s.key)) (coeffs.take (cv1 s.key).length)
      ++ convert cv1 cv2 ss (coeffs.drop (cv1 s.key).length)

/-! ### (b) WFN / WFX -/

/-- one primitive shell as it sits in the file: `types` are the (unsigned) primitive names of the
TYPE ASSIGNMENTS codes, `vals` the numbers of one orbital -/
structure Batch where
  center : Nat
  l : Nat
  e : Nat
  types : List Label
  vals : List Int
  deriving Repr, DecidableEq

def plus (ls : List Label) : List (Bool × Label) := ls.map fun x => (false, x)

/-- `mo_coeffs[...] *= contractions * scales` for the rows of one primitive:
`sl` is the list of labels from which `get_mocoeff_scales` takes the powers. -/
def scaleRow (N : Nat → Label → Int) (e : Nat) (d : Int) (w : List Int) (sl : List Label) : List Int :=
  (w.zip sl).map fun p => p.1 * d * N e p.2

/-- the writer, one shell: convert to the WFN conventions, repeat the block per primitive, scale.
`fromSrc = true`: the decontracted basis carries the *source* conventions (the code as it stands in
`wfn.py`/`wfx.py` when `MolecularBasis(shells, data.obasis.conventions, …)` is used),
`fromSrc = false`: it carries the WFN conventions. -/
def wfnBatch (N : Nat → Label → Int) (s : Shell) (types sl : List Label) (w : List Int) (p : Nat × Int) : Batch :=
  { center := s.center, l := s.l, e := p.1, types := types, vals := scaleRow N p.1 p.2 w sl }

def wfnShell (fromSrc : Bool) (N : Nat → Label → Int) (c1 c2 : List (Bool × Label)) (s : Shell)
    (v : List Int) : List Batch :=
  s.prims.map (wfnBatch N s (labels c2) (if fromSrc then labels c1 else labels c2) (apply (convFwd c1 c2) v))

def wfnDump (fromSrc : Bool) (N : Nat → Label → Int) (cv1 cvW : Cv) : List Shell → List Int → List Batch
  | [], _ => []
  | s :: ss, coeffs =>
    wfnShell fromSrc N (cv1 s.key) (cvW s.key) s (coeffs.take (cv1 s.key).length)
      ++ wfnDump fromSrc N cv1 cvW ss (coeffs.drop (cv1 s.key).length)

/-- what a batch denotes, in *un-normalised* primitives `P_label·exp(−α r²)` -/
def batchDen (b : Batch) (κ : PKey) : Int :=
  if decide (κ.1 = b.center) && decide (κ.2.2.1 = b.l) && decide (κ.2.2.2.1 = 'c') && decide (κ.2.1 = b.e)
  then val (plus b.types) b.vals κ.2.2.2.2 else 0

def fileDen (bs : List Batch) (κ : PKey) : Int := (bs.map fun b => batchDen b κ).sum

/-- the reader on one batch (`build_obasis` with contraction length 1 + `load_one`): regroup the
rows into the order of the WFN conventions (`permutation[ibasis + ifn] = ibasis + i` with
`ifn = CONVENTIONS.index(name_i)`), divide by the scales of the WFN labels; the shell has a single
normalised primitive with coefficient 1. -/
def loadBatch (N : Nat → Label → Int) (cW : List (Bool × Label)) (b : Batch) : Shell × List Int :=
  ({ center := b.center, l := b.l, kind := 'c', prims := [(b.e, 1)] },
   ((apply (convFwd (plus b.types) cW) b.vals).zip (labels cW)).map fun p => p.1 / N b.e p.2)

def wfnLoad (N : Nat → Label → Int) (cvW : Cv) (bs : List Batch) : List Shell × List Int :=
  (bs.map fun b => (loadBatch N (cvW (b.l, 'c')) b).1,
   bs.flatMap fun b => (loadBatch N (cvW (b.l, 'c')) b).2)

/-- flat rows as they appear in the file (centre, type, exponent id, value) -/
def rows (bs : List Batch) : List (Nat × Label × Nat × Int) :=
  bs.flatMap fun b => (b.types.zip b.vals).map fun p => (b.center, p.1, b.e, p.2)

/-! ### (c) Molden / Molekel -/

def insertByCenter (s : Shell) : List Shell → List Shell
  | [] => [s]
  | t :: ts => if s.center ≤ t.center then s :: t :: ts else t :: insertByCenter s ts

/-- Python's stable `sorted(shells, key=icenter)` -/
def sortByCenter : List Shell → List Shell
  | [] => []
  | s :: ss => insertByCenter s (sortByCenter ss)

/-- the Molden writer: `[GTO]` lists the shells sorted by centre, `[MO]` the coefficient rows
converted to the Molden conventions *in the object's shell order*. -/
def moldenDump (cv1 cvM : Cv) (shells : List Shell) (coeffs : List Int) : List Shell × List Int :=
  (sortByCenter shells, convert cv1 cvM shells coeffs)

/-- the coefficient vector cut into the blocks of the shells -/
def blocks (cv : Cv) : List Shell → List Int → List (Shell × List Int)
  | [], _ => []
  | s :: ss, coeffs => (s, coeffs.take (cv s.key).length) :: blocks cv ss (coeffs.drop (cv s.key).length)

def insertPair (p : Shell × List Int) : List (Shell × List Int) → List (Shell × List Int)
  | [] => [p]
  | t :: ts => if p.1.center ≤ t.1.center then p :: t :: ts else t :: insertPair p ts

def sortPairs : List (Shell × List Int) → List (Shell × List Int)
  | [] => []
  | p :: ps => insertPair p (sortPairs ps)

/-- the repaired Molden writer: the coefficient blocks follow the sorted shells -/
def moldenDumpSorted (cv1 cvM : Cv) (shells : List Shell) (coeffs : List Int) : List Shell × List Int :=
  let ps := sortPairs (blocks cvM shells (convert cv1 cvM shells coeffs))
  (ps.map (·.1), ps.flatMap (·.2))

/-- the Molekel writer writes `$$` whenever the centre differs from the previous shell's
(`iatom_last = 0` initially); the reader starts at centre 0 and adds one per `$$`. -/
def mklCentersFrom (last seen : Nat) : List Nat → List Nat
  | [] => []
  | c :: cs =>
    let seen' := if c ≠ last then seen + 1 else seen
    seen' :: mklCentersFrom c seen' cs

def mklCenters (cs : List Nat) : List Nat := mklCentersFrom 0 0 cs

def recenter (shells : List Shell) (cs : List Nat) : List Shell :=
  (shells.zip cs).map fun p => { p.1 with center := p.2 }

def mklDump (cv1 cvM : Cv) (shells : List Shell) (coeffs : List Int) : List Shell × List Int :=
  (recenter shells (mklCenters (shells.map (·.center))), convert cv1 cvM shells coeffs)

/-- `irreps[norb:]` with `norb = norbb` (as the code stands) resp. `norba` -/
def mklBetaIrreps (useNorbb : Bool) (norba norbb : Nat) (irreps : List Nat) : List Nat :=
  irreps.drop (if useNorbb then norbb else norba)

/-! ### (d) FCHK density matrices: `D' = P D Pᵀ` for the signed permutation `r` of the orbital rows -/

def convMatrix (r : List (Nat × Int)) (D : List (List Int)) : List (List Int) :=
  r.map fun p => r.map fun q => p.2 * q.2 * (D.getD p.1 []).getD q.1 0

/-- the FCHK writer: orbital coefficients converted; density matrices converted or not -/
def fchkDensity (converted : Bool) (r : List (Nat × Int)) (D : List (List Int)) : List (List Int) :=
  if converted then convMatrix r D else D

/-- bilinear form of a density matrix on two coefficient vectors of basis-function values -/
def bilin (D : List (List Int)) (x y : List Int) : Int :=
  ((D.zip x).map fun p => p.2 * ((p.1.zip y).map fun q => q.1 * q.2).sum).sum

end Iodata.Wf
