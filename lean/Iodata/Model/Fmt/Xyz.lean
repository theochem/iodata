/-
XYZ (`iodata/formats/xyz.py`): `dump_one` / `load_one` with `atom_columns`.
The atom columns are the element column followed by any list of fixed-point columns
(`cols`: width, decimals, negate?) — the default is three `{:15.10f}` coordinates in angstrom, the
documented user columns (`"{:10.5f}"` charges, negated `"{:15.10f}"` forces) are of this shape.
-/
import Iodata.Model.Fmt.Core
namespace Iodata.Fmt.Xyz
open Iodata.Chars Iodata.Decimal Iodata.Fmt

structure Col where
  w : Nat
  d : Nat
  negate : Bool
  deriving DecidableEq, Repr

structure Layout where
  symW : Nat            -- `{num2sym[atnum]:2s}`
  cols : List Col
  defaultTitle : Str    -- `data.title or "Created with IOData"`
  deriving DecidableEq, Repr

structure Atom where
  z : Nat
  vals : List Fx
  deriving DecidableEq, Repr

structure Obj where
  title : Str
  atoms : List Atom
  deriving DecidableEq, Repr

def flip (b : Bool) (x : Fx) : Fx := if b then ⟨!x.neg, x.mag⟩ else x

def valWords : List Col → List Fx → List Str
  | c :: cs, v :: vs => fmtFix false c.w c.d (flip c.negate v) :: valWords cs vs
  | _, _ => []

/-- one atom line: `" ".join(words)` -/
def dumpAtom (T : Tables) (L : Layout) (a : Atom) : Str :=
  ln (joinSp (ljust L.symW (T.sym a.z) :: valWords L.cols a.vals))

def outTitle (L : Layout) (t : Str) : Str := if t.isEmpty then L.defaultTitle else t

/-- `dump_one` (lines with their `'\n'`) -/
def dump (T : Tables) (L : Layout) (o : Obj) : List Str :=
  ln (natToDec o.atoms.length) :: ln (outTitle L o.title) :: o.atoms.map (dumpAtom T L)

/-- the writer raises (KeyError → DumpError) exactly when an element is not in `num2sym`
or an atom has fewer values than columns -/
def dumpE (T : Tables) (L : Layout) (o : Obj) : Except Unit (List Str) :=
  if o.atoms.all (fun a => (T.sym? a.z).isSome && decide (a.vals.length = L.cols.length)) then .ok (dump T L o) else .error ()

/-- `int(word) if word.isdigit() else sym2num[word.title()]` -/
def loadZ (T : Tables) (w : Str) : R Nat :=
  if isDigitStr w then optE .int (decToNat? w) else optE .sym (T.num? (title w))

/-- `loadword(words.pop(0))` for each remaining column -/
def loadVals : List Col → List Str → R (List Fx)
  | [], _ => .ok []
  | _ :: _, [] => .error .index
  | c :: cs, w :: ws =>
    match pyFix c.d w with
    | none => .error .float
    | some v =>
      match loadVals cs ws with
      | .error e => .error e
      | .ok vs => .ok (flip c.negate v :: vs)

def loadAtom (T : Tables) (L : Layout) (line : Str) : R Atom :=
  match splitWs line with
  | [] => .error .index
  | w :: ws =>
    match loadZ T w with
    | .error e => .error e
    | .ok z =>
      match loadVals L.cols ws with
      | .error e => .error e
      | .ok vs => .ok ⟨z, vs⟩

/-- `load_one` -/
def load (T : Tables) (L : Layout) : List Str → R Obj
  | l0 :: l1 :: rest =>
    match pyInt l0 with
    | some (.ofNat n) =>
      match readN (loadAtom T L) n rest with
      | .error e => .error e
      | .ok (atoms, _) => .ok ⟨strip l1, atoms⟩
    | _ => .error .int
  | _ => .error .eof

/-- what a reload returns for `o`: the default title replaces an empty one -/
def norm (L : Layout) (o : Obj) : Obj := ⟨outTitle L o.title, o.atoms⟩

/-- element usable in a whitespace-separated symbol column: in the table, a blank-free non-numeric
symbol that `sym2num[sym.title()]` maps back -/
def okZ (T : Tables) (z : Nat) : Bool :=
  match T.sym? z with
  | none => false
  | some s => decide (NoWs s) && !s.isEmpty && !isDigitStr s && (T.num? (title s) == some z)

def okTitle (t : Str) : Bool := decide (Trimmed t) && !t.contains '\n'

/-- documented domain: single-line title without surrounding blanks, known elements, one value per column -/
def Dom (T : Tables) (L : Layout) (o : Obj) : Prop :=
  okTitle o.title = true ∧ ∀ a ∈ o.atoms, okZ T a.z = true ∧ a.vals.length = L.cols.length

instance (T : Tables) (L : Layout) (o : Obj) : Decidable (Dom T L o) := by unfold Dom; infer_instance

/-- side condition on the layout: the default title is itself a good title -/
def LayoutOK (L : Layout) : Prop := okTitle L.defaultTitle = true ∧ L.defaultTitle ≠ []
instance (L : Layout) : Decidable (LayoutOK L) := by unfold LayoutOK; infer_instance

end Iodata.Fmt.Xyz

namespace Iodata.Fmt.Xyz
open Iodata.Chars Iodata.Decimal Iodata.Fmt

/-! ### shape of the writer the model assumes (compared with `Gen.Layouts.xyz_writes` in `Props/C02.xyz_writer_shape`) -/

def expectedWrites (L : Layout) : List Write :=
  match L.cols with
  | [] => []
  | c :: _ =>
    [ ("<module>.<lambda>".toList, [.str "num2sym[atnum]".toList L.symW false]),
      ("<module>.<lambda>".toList, [.fix "value / angstrom".toList false c.w c.d]),
      ("dump_one".toList, [.str "data.natom".toList 0 false, .lit ['\n']]),
      ("dump_one".toList, [.str ("data.title or '".toList ++ L.defaultTitle ++ ['\'']) 0 false, .lit ['\n']]),
      ("dump_one".toList, [.str "' '.join(words)".toList 0 false, .lit ['\n']]) ]

/-! ### the published layout: free format.  `natom`, a comment line, then one line per atom with the
element (symbol in any case, or atomic number) and the Cartesian coordinates in angstrom, separated by
blanks.  `specRender` writes *any* such file: the blank runs are part of the input. -/

structure SpecAtom where
  z : Nat
  variant : Nat        -- 0 symbol as tabulated, 1 upper case, 2 lower case, 3 atomic number
  lead : Str           -- blanks before the element
  vals : List (Str × Fx)   -- blanks before each number (non-empty), the number
  trail : Str          -- blanks after the last number
  deriving DecidableEq, Repr

structure SpecObj where
  natomLead : Str
  natomTrail : Str
  titleLead : Str
  title : Str
  titleTrail : Str
  atoms : List SpecAtom
  deriving DecidableEq, Repr

def elTok (T : Tables) (z variant : Nat) : Str :=
  match variant with
  | 0 => T.sym z
  | 1 => upper (T.sym z)
  | 2 => lower (T.sym z)
  | _ => natToDec z

def specVals : List Col → List (Str × Fx) → Str
  | c :: cs, (p, v) :: vs => p ++ (fixCore false c.d v ++ specVals cs vs)
  | _, _ => []

def specAtom (T : Tables) (L : Layout) (a : SpecAtom) : Str :=
  a.lead ++ (elTok T a.z a.variant ++ (specVals L.cols a.vals ++ (a.trail ++ ['\n'])))

def specRender (T : Tables) (L : Layout) (m : SpecObj) : List Str :=
  (m.natomLead ++ (natToDec m.atoms.length ++ (m.natomTrail ++ ['\n'])))
    :: (m.titleLead ++ (m.title ++ (m.titleTrail ++ ['\n'])))
    :: m.atoms.map (specAtom T L)

/-- the object a spec file denotes -/
def SpecObj.obj (m : SpecObj) : Obj := ⟨m.title, m.atoms.map fun a => ⟨a.z, a.vals.map (·.2)⟩⟩

/-- element token is one blank-free word that the reader maps to `z` -/
def okEl (T : Tables) (z variant : Nat) : Bool :=
  decide (NoWs (elTok T z variant)) && !(elTok T z variant).isEmpty && (match loadZ T (elTok T z variant) with | .ok z' => z' == z | .error _ => false)

def noNl (s : Str) : Bool := !s.contains '\n'

def SpecAtomOK (T : Tables) (L : Layout) (a : SpecAtom) : Prop :=
  okEl T a.z a.variant = true ∧ AllWs a.lead ∧ AllWs a.trail ∧ a.vals.length = L.cols.length ∧
  (∀ c ∈ L.cols, c.negate = false) ∧ ∀ pv ∈ a.vals, AllWs pv.1 ∧ pv.1 ≠ []

instance (T : Tables) (L : Layout) (a : SpecAtom) : Decidable (SpecAtomOK T L a) := by
  unfold SpecAtomOK; infer_instance

def SpecOK (T : Tables) (L : Layout) (m : SpecObj) : Prop :=
  AllWs m.natomLead ∧ AllWs m.natomTrail ∧ AllWs m.titleLead ∧ AllWs m.titleTrail ∧ Trimmed m.title ∧
  ∀ a ∈ m.atoms, SpecAtomOK T L a

instance (T : Tables) (L : Layout) (m : SpecObj) : Decidable (SpecOK T L m) := by
  unfold SpecOK; infer_instance

end Iodata.Fmt.Xyz
