/-
SDF / MOL V2000 (`iodata/formats/sdf.py`): `dump_one` writes fixed-width columns, `load_one` *splits
every record on blanks* (transcribed as it is).  The column widths are parameters (`Layout`).
-/
import Iodata.Model.Fmt.Core
namespace Iodata.Fmt.Sdf
open Iodata.Chars Iodata.Decimal Iodata.Fmt

structure Layout where
  cntW : Nat          -- `{natom:3d}{nbond:3d}`
  coordW : Nat        -- `{x:10.4f}`
  coordD : Nat
  symW : Nat          -- `{n:<3s}`
  bondW : Nat         -- `{iatom + 1:3d}{jatom + 1:3d}{bondtype:3d}`
  countsTail : Str    -- "  0     0  0  0  0  0  0999 V2000"
  symGap : Str        -- " "
  atomTail : Str      -- " 0  0  0  0  0  0  0  0  0  0  0  0"
  bondTail : Str      -- "  0  0  0  0"
  endLine : Str       -- "M  END"
  sepLine : Str       -- "$$$$"
  defaultTitle : Str
  -- reader slices (0-based, half-open): counts, atom record, bond record
  sNatom : Nat × Nat
  sNbond : Nat × Nat
  sX : Nat × Nat
  sY : Nat × Nat
  sZ : Nat × Nat
  sSym : Nat × Nat
  sB1 : Nat × Nat
  sB2 : Nat × Nat
  sBt : Nat × Nat
  deriving DecidableEq, Repr

structure Atom where
  x : Fx
  y : Fx
  z : Fx
  zn : Nat
  deriving DecidableEq, Repr

/-- zero-based atom indices and the bond type number -/
structure Bond where
  i : Nat
  j : Nat
  t : Nat
  deriving DecidableEq, Repr

structure Obj where
  title : Str
  atoms : List Atom
  bonds : List Bond       -- `None` and an empty array are written identically
  deriving DecidableEq, Repr

def fmtNat (w n : Nat) : Str := rjust w (natToDec n)

def outTitle (L : Layout) (t : Str) : Str := if t.isEmpty then L.defaultTitle else t

def dumpAtom (T : Tables) (L : Layout) (a : Atom) : Str :=
  ln (fmtFix false L.coordW L.coordD a.x ++ (fmtFix false L.coordW L.coordD a.y ++ (fmtFix false L.coordW L.coordD a.z
    ++ (L.symGap ++ (ljust L.symW (T.sym a.zn) ++ L.atomTail)))))

def dumpBond (L : Layout) (b : Bond) : Str :=
  ln (fmtNat L.bondW (b.i + 1) ++ (fmtNat L.bondW (b.j + 1) ++ (fmtNat L.bondW b.t ++ L.bondTail)))

def countsLine (L : Layout) (natom nbond : Nat) : Str :=
  ln (fmtNat L.cntW natom ++ (fmtNat L.cntW nbond ++ L.countsTail))

/-- `dump_one` -/
def dump (T : Tables) (L : Layout) (o : Obj) : List Str :=
  ln (outTitle L o.title) :: ln [] :: ln [] :: countsLine L o.atoms.length o.bonds.length
    :: (o.atoms.map (dumpAtom T L) ++ (o.bonds.map (dumpBond L) ++ [ln L.endLine, ln L.sepLine]))

def dumpE (T : Tables) (L : Layout) (o : Obj) : Except Unit (List Str) :=
  if o.atoms.all (fun a => (T.sym? a.zn).isSome) then .ok (dump T L o) else .error ()

def pyNat (e : LErr) (s : Str) : R Nat :=
  match pyInt s with
  | some (.ofNat n) => .ok n
  | _ => .error e

def sl (p : Nat × Nat) (s : Str) : Str := slice p.1 p.2 s

/-- atom record of `load_one`: cut by column -/
def loadAtom (T : Tables) (L : Layout) (line : Str) : R Atom :=
  match pyFix L.coordD (sl L.sX line), pyFix L.coordD (sl L.sY line), pyFix L.coordD (sl L.sZ line),
        T.num? (title (strip (sl L.sSym line))) with
  | some x, some y, some z, some zn => .ok ⟨x, y, z, zn⟩
  | _, _, _, _ => .error .float

/-- bond record: `int(line[0:3]) - 1`, `int(line[3:6]) - 1`, `int(line[6:9])` (an index below one or a
negative type is outside the model: reported as an error) -/
def loadBond (L : Layout) (line : Str) : R Bond :=
  match pyNat .int (sl L.sB1 line), pyNat .int (sl L.sB2 line), pyNat .int (sl L.sBt line) with
  | .ok (a + 1), .ok (b + 1), .ok t => .ok ⟨a, b, t⟩
  | _, _, _ => .error .int

/-- `while True: words = next(lit); if words == "$$$$\n": break` -/
def hasEnd (sep : Str) (ls : List Str) : Bool := ls.any (· == ln sep)

/-- `load_one` -/
def load (T : Tables) (L : Layout) : List Str → R Obj
  | l0 :: _ :: _ :: l3 :: rest =>
    match pyNat .int (sl L.sNatom l3), pyNat .int (sl L.sNbond l3) with
    | .ok natom, .ok nbond =>
      match (splitWs l3).getLast? with
      | none => .error .index
      | some wl =>
        if upper wl != "V2000".toList then .error .format else
        match readN (loadAtom T L) natom rest with
        | .error e => .error e
        | .ok (atoms, rest1) =>
          match readN (loadBond L) nbond rest1 with
          | .error e => .error e
          | .ok (bonds, rest2) =>
            if hasEnd "$$$$".toList rest2 then .ok ⟨strip l0, atoms, bonds⟩ else .error .eof
    | _, _ => .error .int
  | _ => .error .eof

def norm (L : Layout) (o : Obj) : Obj := ⟨outTitle L o.title, o.atoms, o.bonds⟩

def okTitle (t : Str) : Bool := decide (Trimmed t) && !t.contains '\n'

/-- element usable in the symbol column: blank-free, fits, and `sym2num[sym.title()]` maps it back -/
def okZ (T : Tables) (L : Layout) (z : Nat) : Bool :=
  match T.sym? z with
  | none => false
  | some s => decide (NoWs s) && decide (s.length ≤ L.symW) && (T.num? (title s) == some z)

/-- the number fits its column -/
def fitsFx (L : Layout) (v : Fx) : Bool := decide ((fixCore false L.coordD v).length ≤ L.coordW)
def fitsNat (w n : Nat) : Bool := decide ((natToDec n).length ≤ w)

/-- documented domain = what the V2000 columns can hold: every count, atom number, bond type and
coordinate fits its column (neighbouring fields may touch), known elements, single-line title -/
def Dom (T : Tables) (L : Layout) (o : Obj) : Prop :=
  okTitle o.title = true ∧ fitsNat L.cntW o.atoms.length = true ∧ fitsNat L.cntW o.bonds.length = true ∧
  (∀ a ∈ o.atoms, okZ T L a.zn = true ∧ fitsFx L a.x = true ∧ fitsFx L a.y = true ∧ fitsFx L a.z = true) ∧
  (∀ b ∈ o.bonds, fitsNat L.bondW (b.i + 1) = true ∧ fitsNat L.bondW (b.j + 1) = true ∧ fitsNat L.bondW b.t = true)

instance (T : Tables) (L : Layout) (o : Obj) : Decidable (Dom T L o) := by unfold Dom; infer_instance

/-- side conditions on the literal parts of the layout -/
def LayoutOK (L : Layout) : Prop :=
  okTitle L.defaultTitle = true ∧ L.defaultTitle ≠ [] ∧
  AllWs L.symGap ∧ L.symGap ≠ [] ∧
  brkB L.countsTail = true ∧ brkB L.atomTail = true ∧ brkB L.bondTail = true ∧
  ((splitWs (ln L.countsTail)).getLast?.map upper = some "V2000".toList) ∧
  L.sepLine = "$$$$".toList ∧
  -- writer columns = reader slices
  L.sNatom = (0, L.cntW) ∧ L.sNbond = (L.cntW, 2 * L.cntW) ∧
  L.sX = (0, L.coordW) ∧ L.sY = (L.coordW, 2 * L.coordW) ∧ L.sZ = (2 * L.coordW, 3 * L.coordW) ∧
  L.sSym = (3 * L.coordW + L.symGap.length, 3 * L.coordW + L.symGap.length + L.symW) ∧
  L.sB1 = (0, L.bondW) ∧ L.sB2 = (L.bondW, 2 * L.bondW) ∧ L.sBt = (2 * L.bondW, 3 * L.bondW)

instance (L : Layout) : Decidable (LayoutOK L) := by unfold LayoutOK; infer_instance

end Iodata.Fmt.Sdf

namespace Iodata.Fmt.Sdf
open Iodata.Chars Iodata.Decimal Iodata.Fmt

/-! ### shape of the writer the model assumes (compared with `Gen.Layouts.sdf_writes` in `Props/C02.sdf_source_shape`) -/

def expectedWrites (L : Layout) : List Write :=
  let f := "dump_one".toList
  [ (f, [.str ("data.title or '".toList ++ L.defaultTitle ++ ['\'']) 0 false, .lit ['\n']]),
    (f, [.lit ['\n']]),
    (f, [.lit ['\n']]),
    (f, [.int "data.natom".toList L.cntW, .int "nbond".toList L.cntW, .lit L.countsTail, .lit ['\n']]),
    (f, [.fix ['x'] false L.coordW L.coordD, .fix ['y'] false L.coordW L.coordD, .fix ['z'] false L.coordW L.coordD,
         .lit L.symGap, .str ['n'] L.symW false, .lit L.atomTail, .lit ['\n']]),
    (f, [.int "iatom + 1".toList L.bondW, .int "jatom + 1".toList L.bondW, .int "bondtype".toList L.bondW,
         .lit L.bondTail, .lit ['\n']]),
    (f, [.lit L.endLine, .lit ['\n']]),
    (f, [.lit L.sepLine, .lit ['\n']]) ]

/-- the slices of the reader, in source order (compared with `Gen.Layouts.sdf_slices`) -/
def expectedSlices (L : Layout) : List Slice :=
  let f := "load_one".toList
  [ ⟨f, "natom".toList, L.sNatom.1, some L.sNatom.2, false⟩, ⟨f, "nbond".toList, L.sNbond.1, some L.sNbond.2, false⟩,
    ⟨f, "atcoords[iatom, 0]".toList, L.sX.1, some L.sX.2, false⟩, ⟨f, "atcoords[iatom, 1]".toList, L.sY.1, some L.sY.2, false⟩,
    ⟨f, "atcoords[iatom, 2]".toList, L.sZ.1, some L.sZ.2, false⟩, ⟨f, "atnums[iatom]".toList, L.sSym.1, some L.sSym.2, false⟩,
    ⟨f, "bonds[ibond, 0]".toList, L.sB1.1, some L.sB1.2, false⟩, ⟨f, "bonds[ibond, 1]".toList, L.sB2.1, some L.sB2.2, false⟩,
    ⟨f, "bonds[ibond, 2]".toList, L.sBt.1, some L.sBt.2, false⟩ ]

/-! ### the published layout: CTfile V2000 column table (hand-written from the specification)

counts line `aaabbblllfffcccsssxxxrrrpppiiimmmvvvvvv`: atoms 1-3, bonds 4-6, version 34-39;
atom line `xxxxx.xxxxyyyyy.yyyyzzzzz.zzzz aaaddcccssshhhbbbvvvHHHrrriiimmmnnneee`: x 1-10, y 11-20, z 21-30 (F10.4),
blank 31, symbol 32-34, then twelve 3-column (dd: 2-column) integer fields;
bond line `111222tttsssxxxrrrccc`: first atom 1-3, second atom 4-6, type 7-9, then four 3-column fields. -/
def specV2000 : Layout :=
  { cntW := 3, coordW := 10, coordD := 4, symW := 3, bondW := 3
    countsTail := "  0     0  0  0  0  0  0999 V2000".toList
    symGap := [' ']
    atomTail := " 0  0  0  0  0  0  0  0  0  0  0  0".toList
    bondTail := "  0  0  0  0".toList
    endLine := "M  END".toList
    sepLine := "$$$$".toList
    defaultTitle := "Created with IOData".toList
    sNatom := (0, 3), sNbond := (3, 6), sX := (0, 10), sY := (10, 20), sZ := (20, 30), sSym := (31, 34),
    sB1 := (0, 3), sB2 := (3, 6), sBt := (6, 9) }

/-- the reader's columns: counts natom/nbond, atom x/y/z/symbol, bond a/b/type -/
def readerColumns (L : Layout) : List (Nat × Nat) :=
  [L.sNatom, L.sNbond, L.sX, L.sY, L.sZ, L.sSym, L.sB1, L.sB2, L.sBt]

def specColumns : List (Nat × Nat) :=
  [ (0, 3), (3, 6), (0, 10), (10, 20), (20, 30), (31, 34), (0, 3), (3, 6), (6, 9) ]

end Iodata.Fmt.Sdf
