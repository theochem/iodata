/-
C05 — Molden/Molekel files written with the known deviations of ORCA, PSI4, Turbomole, CFOUR or with
unnormalised contractions are repaired by a cascade of attempts, each validated by the orbital norms.

What is proved here is the DECISION LOGIC of `_fix_molden_from_buggy_codes` and the structure of its
correction tables; the attempts (order, guards, tested and stored variables, warnings) and the tables are
regenerated from the source on every run (`Iodata/Gen/Cascade.lean`) and tied to a hand-written reference
by kernel evaluation.  The norm tests are oracle booleans `ok i`.

NOT proved (numerical, searched on random vendor-encoded files by harness/vh/props/c05.py):
  "for a file of vendor V the first passing attempt is V's own correction (or one that coincides with it on
   the shell types present), so the loaded wavefunction is the true one"            -- hence level: partial.
-/
import Iodata.Lemmas.Cascade
import Iodata.Gen.Cascade
import Mathlib.Algebra.Field.Basic

namespace Iodata.Props.C05
open Iodata.Cascade
open Iodata.Gen.Cascade (cascade tables)

/-- The attempts extracted from the source (order, guards, what is tested, what is stored, which warning)
are exactly the reference list: re-ordering, dropping or re-wiring an attempt breaks this. -/
theorem gen_cascade_eq_ref : cascade = Ref.cascade := by decide +kernel

/-- The function ends with `raise LoadError`, the norm test is `max |cᵗSc − 1| ≤ norm_threshold` over all
orbitals, and both loaders end with the cascade (shape facts recorded by the translator). -/
theorem gen_shape :
    Gen.Cascade.finalRaisesLoadError = true ∧ Gen.Cascade.normTestShape = true ∧
    Gen.Cascade.moldenLoadEndsWithCascade = true ∧ Gen.Cascade.molekelLoadEndsWithCascade = true := by decide +kernel

/-- `cascade_first`: the cascade returns attempt `j` iff `j` is the FIRST applicable attempt, in the code's
order, whose norm test passes. -/
theorem cascade_first (T : Tables) (as : List Attempt) (sh : List ShellType) (ok : Nat → Bool)
    (j : Nat) (a : Attempt) :
    run T as sh ok = .loaded j a ↔
      as[j]? = some a ∧ applicable T sh a = true ∧ ok j = true ∧
        ∀ k b, k < j → as[k]? = some b → applicable T sh b = true → ok k = false := by
  rw [run_eq_loaded_iff, find?_zipIdx_eq_some]
  simp only [passes, Bool.and_eq_true, Bool.and_eq_false_imp, and_assoc]

/-- C05 clause `none_pass ⇒ LoadError`, both directions: the file is rejected with `LoadError` iff no applicable attempt passes its norm test. -/
theorem none_pass_iff_loadError (T : Tables) (as : List Attempt) (sh : List ShellType) (ok : Nat → Bool) :
    run T as sh ok = .loadError ↔
      ∀ k b, as[k]? = some b → applicable T sh b = true → ok k = false := by
  rw [run_eq_loadError_iff, find?_zipIdx_eq_none]
  simp only [passes, Bool.and_eq_false_imp]

/-- The result is never anything else: either an attempt of the list or `LoadError`. -/
theorem loaded_or_error (T : Tables) (as : List Attempt) (sh : List ShellType) (ok : Nat → Bool) :
    run T as sh ok = .loadError ∨ ∃ j a, run T as sh ok = .loaded j a ∧ as[j]? = some a := by
  cases h : run T as sh ok with
  | loadError => exact Or.inl rfl
  | loaded j a => exact Or.inr ⟨j, a, rfl, ((cascade_first T as sh ok j a).mp h).1⟩

/-- Every norm test that is executed is an applicable attempt and is recorded with its own result
(the `tests=` part of the correspondence stream). -/
theorem tests_are_applicable (T : Tables) (as : List Attempt) (sh : List ShellType) (ok : Nat → Bool)
    (t : Nat × Bool) (h : t ∈ testsFrom T sh ok 0 as) :
    t.2 = ok t.1 ∧ ∃ a, as[t.1]? = some a ∧ applicable T sh a = true := by
  obtain ⟨p, hp, rfl⟩ := List.mem_map.mp ((testsFrom_prefix T sh ok as 0).subset h)
  obtain ⟨hp, ha⟩ := List.mem_filter.mp hp
  exact ⟨rfl, p.1, List.mem_zipIdx_iff_getElem?.mp hp, ha⟩

/-- `standard_untouched`: a file whose orbitals are normalised as read is returned as read: attempt 0, no
warning, `result["obasis"]` and the coefficients are not assigned. -/
theorem standard_untouched (sh : List ShellType) (ok : Nat → Bool) (h : ok 0 = true) :
    ∃ a, run tables cascade sh ok = .loaded 0 a ∧ a.warn = none ∧ a.storeBasis = none ∧ a.storeCoeff = none := by
  rw [gen_cascade_eq_ref]
  exact ⟨_, (cascade_first tables Ref.cascade sh ok 0 _).mpr
    ⟨rfl, rfl, h, fun _ _ hk => absurd hk (Nat.not_lt_zero _)⟩, rfl, rfl, rfl⟩

private theorem forall_attempt (P : Nat → Attempt → Prop)
    (h : ∀ p ∈ Ref.cascade.zipIdx, P p.2 p.1) (j : Nat) (a : Attempt) (hj : cascade[j]? = some a) : P j a := by
  rw [gen_cascade_eq_ref] at hj
  exact h (a, j) (List.mem_zipIdx_iff_getElem?.mpr hj)

/-- `warning_iff_correction`: whenever the cascade loads the file with attempt `j`,
* a warning is emitted iff `j ≠ 0` iff something is stored (a correction is applied);
* the warning names exactly the correction that was tested;
* what is stored is what was tested (basis and coefficients), never another variant. -/
theorem warning_iff_correction (sh : List ShellType) (ok : Nat → Bool) (j : Nat) (a : Attempt)
    (h : run tables cascade sh ok = .loaded j a) :
    (a.warn.isSome ↔ j ≠ 0) ∧ (a.warn.isSome ↔ a.storeBasis.isSome) ∧
    (∀ w, a.warn = some w → w.names = some (a.testBasis, a.testCoeff)) ∧
    (j ≠ 0 → a.storeBasis = some a.testBasis ∧
      a.storeCoeff = if a.testCoeff = .raw then none else some a.testCoeff) := by
  have hget := ((cascade_first tables cascade sh ok j a).mp h).1
  clear h
  revert j a
  refine forall_attempt _ ?_
  decide +kernel

/-- Each warning names one correction: the warnings of the attempts are pairwise different and none is
unclassified. -/
theorem warnings_distinct :
    (cascade.filterMap (·.warn)).Nodup ∧ Warn.other ∉ cascade.filterMap (·.warn) := by decide +kernel

/-- C05 clause `none_pass ⇒ LoadError` for the current source (with the trailing `raise LoadError`). -/
theorem none_pass_loadError (sh : List ShellType) (ok : Nat → Bool) (h : ∀ i, i < 7 → ok i = false) :
    run tables cascade sh ok = .loadError ∧ Gen.Cascade.finalRaisesLoadError = true := by
  refine ⟨(none_pass_iff_loadError _ _ _ _).mpr fun k b hb _ => h k ?_, gen_shape.1⟩
  exact (List.getElem?_eq_some_iff.mp hb).1

/-- All entries of the generated tables are classified, positive scalings. -/
theorem tables_positive :
    (∀ f : BasisFix, ∀ e ∈ tables.basis f, e.2.okPos = true) ∧
    (∀ f : CoeffFix, ∀ e ∈ tables.coeff f, ∀ x ∈ e.2, 0 < x.1 ∧ 0 < x.2) := by
  constructor
  · intro f; cases f <;> decide +kernel
  · intro f; cases f <;> decide +kernel

variable {α : Type} [Field α]

/-- Dividing the MO coefficients by `s` (CFOUR, PSI4<=1.3.2 fixes) and dividing the basis functions by `s`
(ORCA, PSI4<=1.0, Turbomole, re-normalisation: coefficients of a shell are divided, i.e. every function of the
shell) give the same orbital `Σ (cᵢ/sᵢ) φᵢ`: both kinds of fix are one operation, a diagonal scaling. -/
theorem scale_coeffs_eq_scale_basis (s c φ : List α) :
    expand (scaleBy s c) φ = expand c (scaleBy s φ) := by
  induction s generalizing c φ with
  | nil => cases c <;> rfl
  | cons x xs ih =>
    cases c with
    | nil => rfl
    | cons y ys =>
      cases φ with
      | nil => rfl
      | cons p ps =>
        show y / x * p + expand (scaleBy xs ys) ps = y * (p / x) + expand ys (scaleBy xs ps)
        rw [ih, div_mul_eq_mul_div, mul_div_assoc]

/-- A diagonal scaling by non-zero factors is undone by the reciprocal factors: no information is lost. -/
theorem scale_invertible (s c : List α) (hs : ∀ x ∈ s, x ≠ 0) (hl : c.length ≤ s.length) :
    scaleBy (s.map (·⁻¹)) (scaleBy s c) = c := by
  induction s generalizing c with
  | nil =>
    cases c with
    | nil => rfl
    | cons y ys => cases hl
  | cons x xs ih =>
    cases c with
    | nil => rfl
    | cons y ys =>
      show y / x / x⁻¹ :: scaleBy (xs.map (·⁻¹)) (scaleBy xs ys) = y :: ys
      rw [ih ys (fun z hz => hs z (List.mem_cons_of_mem _ hz)) (Nat.le_of_succ_le_succ hl), div_inv_eq_mul,
        div_mul_cancel₀ _ (hs x List.mem_cons_self)]

/-- Hence a fix cannot change the function space, only the normalisation: every expansion in the fixed
basis is an expansion in the original basis and vice versa. -/
theorem same_span (s φ : List α) (hs : ∀ x ∈ s, x ≠ 0) (hl : φ.length ≤ s.length) :
    (∀ c, ∃ c', expand c' φ = expand c (scaleBy s φ)) ∧
    (∀ c, ∃ c', expand c' (scaleBy s φ) = expand c φ) :=
  ⟨fun c => ⟨scaleBy s c, scale_coeffs_eq_scale_basis s c φ⟩,
   fun c => ⟨scaleBy (s.map (·⁻¹)) c, by rw [scale_coeffs_eq_scale_basis, scale_invertible s φ hs hl]⟩⟩

/-- ORCA: s, p and pure d..h shells get the normalisation constant of a fixed monomial
(`xy`, `xyz`, `xxyz`, `x⁵`), nothing else is touched. -/
theorem orca_table : ∀ e ∈ Gen.Cascade.orcaTable, e.2 = Ref.orcaScale e.1 := by decide +kernel

/-- PSI4 <= 1.0: s, p, pure d, pure f get the normalisation constant of `x^l`; g, h and Cartesian shells
are not touched. -/
theorem psi4old_table : ∀ e ∈ Gen.Cascade.psi4oldTable, e.2 = Ref.psi4oldScale e.1 := by decide +kernel

/-- Turbomole: Cartesian d, f, g coefficients are divided by `1/√((2l-1)!!)`; nothing else. -/
theorem turbomole_table : ∀ e ∈ Gen.Cascade.turbomoleTable, e.2 = Ref.turbomoleScale e.1 := by decide +kernel

/-- Re-normalisation touches every shell (it never returns `None`) and only normalises. -/
theorem normalize_table : ∀ e ∈ Gen.Cascade.normalizeTable, e.2 = .unit := by decide +kernel

/-- CFOUR 2.1: exactly Cartesian d, f, g; the squared divisor of the function `x^a y^b z^c` (Molden order,
from the generated `CONVENTIONS`) is `1 / ((2a-1)!!(2b-1)!!(2c-1)!!)`. -/
theorem cfour_table :
    Gen.Cascade.cfourTable.map (·.1) = [(2, 'c'), (3, 'c'), (4, 'c')] ∧
    ∀ e ∈ Gen.Cascade.cfourTable,
      (Gen.Cascade.moldenConventions.lookup e.1).map (·.map fun lab => (1, monoQ (monoOf lab))) = some e.2 := by
  decide +kernel

/-- PSI4 <= 1.3.2: exactly Cartesian d, f, g; the squared divisor of `x^a y^b z^c` is
`(2l-1)!! / ((2a-1)!!(2b-1)!!(2c-1)!!)` (compared by cross-multiplication). -/
theorem psi4new_table :
    Gen.Cascade.psi4newTable.map (·.1) = [(2, 'c'), (3, 'c'), (4, 'c')] ∧
    ∀ e ∈ Gen.Cascade.psi4newTable,
      ∃ labs, Gen.Cascade.moldenConventions.lookup e.1 = some labs ∧ labs.length = e.2.length ∧
        ∀ p ∈ e.2.zip labs, p.1.1 * monoQ (monoOf p.2) = p.1.2 * oddFact e.1.1 := by
  decide +kernel

/-- The two coefficient corrections have the same guard (they touch the same shell types), so attempts 4
and 6 are applicable for the same files. -/
theorem coeff_guards_agree (sh : List ShellType) :
    (tables.coeff .cfour).touches sh = (tables.coeff .psi4new).touches sh := by
  unfold CoeffTable.touches
  congr 1
  funext s
  rw [lookup_isSome_eq_contains, lookup_isSome_eq_contains]
  have : (tables.coeff .cfour).map (·.1) = (tables.coeff .psi4new).map (·.1) := by decide +kernel
  rw [this]

/-- ORCA and PSI4<=1.0 corrections coincide exactly on the shell types other than pure d, f, g, h
(on the probed domain l ≤ 6): in particular on s and p. -/
theorem orca_psi4old_agree_iff :
    ∀ e ∈ Gen.Cascade.orcaTable,
      (Gen.Cascade.orcaTable.get e.1 = Gen.Cascade.psi4oldTable.get e.1 ↔
        ¬ (e.1.2 = 'p' ∧ 2 ≤ e.1.1 ∧ e.1.1 ≤ 5)) := by decide +kernel

/-- Why an s,p-only PSI4<=1.0 file is legitimately announced as "ORCA": on such a file both fixes act
identically on every shell, and the conventions attached by the ORCA fix equal Molden's there. -/
theorem sp_only_psi4old_is_orca (sh : List ShellType) (h : ∀ s ∈ sh, s = (0, 'c') ∨ s = (1, 'c')) :
    sh.map Gen.Cascade.orcaTable.get = sh.map Gen.Cascade.psi4oldTable.get ∧
    ∀ s ∈ sh, Gen.Cascade.orcaConventions.lookup s = Gen.Cascade.moldenConventions.lookup s := by
  refine ⟨List.map_congr_left fun s hs => ?_, fun s hs => ?_⟩ <;>
    rcases h s hs with rfl | rfl <;> decide +kernel

/-- The conventions attached by the ORCA fix differ from Molden's only by the sign of the listed pure
functions (c3, s3 of f; c3, s3, c4, s4 of g and h): same keys, same labels in the same order. -/
theorem orca_conventions_only_signs :
    Gen.Cascade.orcaConventions.map (·.1) = Gen.Cascade.moldenConventions.map (·.1) ∧
    (∀ e ∈ Gen.Cascade.orcaConventions,
      Gen.Cascade.moldenConventions.lookup e.1 = some (e.2.map Ref.strip) ∧
      (e.2.filter (fun l => l.head? = some '-')).map Ref.strip = Ref.orcaNegative e.1) := by
  decide +kernel

/-- a PSI4<=1.0 file with a pure d shell: attempts 0 and 1 fail, attempt 2 passes -/
example : run tables cascade [(0, 'c'), (2, 'p')] (fun i => i == 2) = .loaded 2 (Ref.cascade[2]) := by
  decide +kernel

/-- s,p only and nothing passes: Turbomole/CFOUR/PSI4<=1.3.2 attempts are skipped, LoadError -/
example : run tables cascade [(0, 'c'), (1, 'c')] (fun _ => false) = .loadError ∧
    testsFrom tables [(0, 'c'), (1, 'c')] (fun _ => false) 0 cascade = [(0, false), (1, false), (2, false), (5, false)] := by
  decide +kernel

/-- the order matters: if both ORCA and PSI4<=1.0 tests pass, ORCA is announced -/
example : run tables cascade [(0, 'c')] (fun i => i == 1 || i == 2) = .loaded 1 (Ref.cascade[1]) ∧
    (Ref.cascade[1]).warn = some .orca := by decide +kernel

/-- a guarded attempt that would pass is NOT taken when its fix touches nothing -/
example : run tables cascade [(0, 'c')] (fun i => i == 3) = .loadError := by decide +kernel

end Iodata.Props.C05
