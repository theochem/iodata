/-
C06 — obligations over the generated Cartesian→pure tables (`Iodata/Gen/Cartpure.lean`, regenerated from
`iodata/overlap_cartpure.py` on every run; entries are the exact dyadic values of the doubles).

`Iodata.CartPure.checkTable l tf` (see `Model/CartPure.lean`) evaluates, in exact rational interval
arithmetic with `1/√d` enclosed to 2⁻⁶⁴ (enclosure verified by squaring), the four conditions that
characterise the L2-normalised real regular solid harmonics of docs/basis.rst within 10⁻¹²:
harmonic rows, orthonormal rows w.r.t. the exact Gram matrix of normalised Cartesian primitives,
`cos mφ`/`sin mφ` symmetry with the documented relative sign (`∂φ C_m = −m S_m`, `∂φ S_m = m C_m`),
positive leading coefficient.  One flipped sign or swapped entry falsifies at least one of them.
Soundness of the interval operations over ℝ: `I.mem_add`, `I.mem_scale`, `I.mem_mulPos`, `I.within_sound`,
`invSqrt_sound` (Props/C06.lean).

Every number the checker meets is dyadic, so each table is evaluated on integers scaled by powers of two:
`checkInt` (`Lemmas/CartPure.lean`) tests that the denominators divide 2⁶⁴ and runs the checker on the
numerators; `checkTable_of_int` carries the result over to `checkTable`.
-/
import Iodata.Lemmas.CartPure
import Iodata.Gen.Cartpure

namespace Iodata.Props.C06Tables
open Iodata.CartPure Iodata.Gen.Cartpure

/-- the module ships exactly the tables l = 0..7 -/
theorem tfs_count : tfs.length = 8 := by decide

theorem tfs_orthonormal_harmonic_0 : checkTable 0 (tfs.getD 0 []) = true :=
  checkTable_of_int 0 64 _ (by decide +kernel)
theorem tfs_orthonormal_harmonic_1 : checkTable 1 (tfs.getD 1 []) = true :=
  checkTable_of_int 1 64 _ (by decide +kernel)
theorem tfs_orthonormal_harmonic_2 : checkTable 2 (tfs.getD 2 []) = true :=
  checkTable_of_int 2 64 _ (by decide +kernel)
theorem tfs_orthonormal_harmonic_3 : checkTable 3 (tfs.getD 3 []) = true :=
  checkTable_of_int 3 64 _ (by decide +kernel)
theorem tfs_orthonormal_harmonic_4 : checkTable 4 (tfs.getD 4 []) = true :=
  checkTable_of_int 4 64 _ (by decide +kernel)
theorem tfs_orthonormal_harmonic_5 : checkTable 5 (tfs.getD 5 []) = true :=
  checkTable_of_int 5 64 _ (by decide +kernel)
theorem tfs_orthonormal_harmonic_6 : checkTable 6 (tfs.getD 6 []) = true :=
  checkTable_of_int 6 64 _ (by decide +kernel)
theorem tfs_orthonormal_harmonic_7 : checkTable 7 (tfs.getD 7 []) = true :=
  checkTable_of_int 7 64 _ (by decide +kernel)

/-- `tfs_orthonormal_harmonic`: every shipped table (l ≤ 7) is, within 10⁻¹², the table of normalised
real solid harmonics in HORTON2 order. -/
theorem tfs_orthonormal_harmonic : ∀ l, l < 8 → checkTable l (tfs.getD l []) = true := by
  intro l hl
  match l, hl with
  | 0, _ => exact tfs_orthonormal_harmonic_0
  | 1, _ => exact tfs_orthonormal_harmonic_1
  | 2, _ => exact tfs_orthonormal_harmonic_2
  | 3, _ => exact tfs_orthonormal_harmonic_3
  | 4, _ => exact tfs_orthonormal_harmonic_4
  | 5, _ => exact tfs_orthonormal_harmonic_5
  | 6, _ => exact tfs_orthonormal_harmonic_6
  | 7, _ => exact tfs_orthonormal_harmonic_7

/-- non-vacuity: the checker rejects a table with one sign flipped / two entries swapped -/
example : checkTable 2 [[(-1:Rat)/2, 0, 0, 1/2, 0, 1], [0,0,1,0,0,0], [0,0,0,0,1,0],
    [(3900231685776981:Rat)/4503599627370496, 0, 0, -(3900231685776981:Rat)/4503599627370496, 0, 0], [0,1,0,0,0,0]] = false := by
  decide +kernel
example : checkTable 1 [[0,0,1],[0,1,0],[1,0,0]] = false := by decide +kernel

end Iodata.Props.C06Tables
