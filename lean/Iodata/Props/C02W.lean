/-
C02 — save-then-reload returns the same data: second group of formats (FCIDUMP full file, POSCAR text, FCHK object
mapping, WFN / WFX sections, QCSchema molecule core).

Property theorems only, in the form `load (dump o) = ok (norm o)` for *every* object of the explicit domain; the layout and
source facts actually used by iodata (`Gen.LayoutsW`, regenerated from the source on every run) are shown to satisfy the
side conditions and to have the shape the models assume, by computation.  The models are the ones the driver executes in
the `fmtw dump` / `fmtw load` correspondence streams.
-/
import Iodata.Lemmas.Fmt.FcidumpW
import Iodata.Lemmas.Fmt.FchkO
import Iodata.Lemmas.Fmt.WfxS
import Iodata.Lemmas.Fmt.GenW
import Iodata.Lemmas.StrLit

namespace Iodata.Props.C02W
open Iodata.Chars Iodata.Decimal Iodata.Fmt Iodata.Gen.Layouts Iodata.Gen.LayoutsW

/-- FCIDUMP: reading back the written file gives the object — for every number of orbitals, every symmetric one-electron
matrix and 8-fold symmetric two-electron array (zero elements, of either sign, are not written and come back as `0.0`),
present or absent core energy (absent → `0.0`), and any real `nelec` / `spinpol` (rounded to the nearest integer, ties to
even, by the writer).  Every real is reproduced to all 17 printed digits (mantissa and exponent). -/
theorem fcidump_load_dump (L : FcidumpW.Layout) (hL : FcidumpW.LayoutOK L) (o : FcidumpW.Obj) (h : FcidumpW.Dom L o) :
    FcidumpW.load L (FcidumpW.dump L o) = .ok (FcidumpW.norm o) :=
  FcidumpW.load_dump L hL o h

/-- FCIDUMP: what `norm` keeps — inside the arrays every non-zero element exactly, position by position (no permutation,
no sign change, no rescaling); integral electron counts exactly. -/
theorem fcidump_norm_faithful (o : FcidumpW.Obj) :
    (∀ i j, i < o.n → j < o.n → (o.one i j).man ≠ 0 → (FcidumpW.norm o).one i j = o.one i j) ∧
    (∀ p, FcidumpW.inRange o.n p → (o.two p).man ≠ 0 → (FcidumpW.norm o).two p = o.two p) ∧
    (∀ k : Int, o.nelec = some (k, 1) → (FcidumpW.norm o).nelec = k) ∧
    (∀ k : Int, o.spinpol = some (k, 1) → (FcidumpW.norm o).spinpol = k) ∧
    (∀ c, o.core = some c → (FcidumpW.norm o).core = c) := by
  refine ⟨?_, ?_, ?_, ?_, ?_⟩
  · intro i j hi hj hm; simp [FcidumpW.norm, hi, hj, FcidumpW.cz_of_ne hm]
  · intro p hp hm; simp [FcidumpW.norm, hp, FcidumpW.cz_of_ne hm]
  · intro k hk; simp [FcidumpW.norm, hk, FcidumpW.roundOpt_int]
  · intro k hk; simp [FcidumpW.norm, hk, FcidumpW.roundOpt_int]
  · intro c hc; simp [FcidumpW.norm, hc]

/-- FCIDUMP: `int(round(x))` as modelled: nearest integer, ties to even — `9.999999999999998 → 10` (a truncating
`int(x)` would give 9), `2.5 → 2`, `3.5 → 4`, `-0.5 → 0`, `-1.5 → -2`. -/
theorem fcidump_round_examples :
    FcidumpW.pyRound 9999999999999998 1000000000000000 = 10 ∧ FcidumpW.pyRound 5 2 = 2 ∧ FcidumpW.pyRound 7 2 = 4 ∧
    FcidumpW.pyRound (-1) 2 = 0 ∧ FcidumpW.pyRound (-3) 2 = -2 ∧ FcidumpW.pyRound 9 1 = 9 := by decide

/-- FCIDUMP: the layout in the source satisfies the side conditions; writer and reader in the source have the shape the
model transcribes (field widths and literals of the seven `print` calls; `int(round(… or 0))` conversions; the element
`two_mo[i0, i2, i1, i3]` printed under the canonical-loop condition; zero tests; the reader's header literal, cut column,
namelist keys, end markers, word positions, and the fill `set_four_index_element(two_mo, ii, ik, ij, il, value)`). -/
theorem fcidump_source_shape :
    FcidumpW.LayoutOK fcidumpL ∧ fcidump_writes = FcidumpW.expectedWrites fcidumpL ∧ fcidumpSource = FcidumpW.expectedSource := by
  refine ⟨by decide +kernel, ?_, ?_⟩
  -- here and below the string literals are spelt out first (`toList_lit`): evaluating `"…".toList` runs the UTF-8 decoder
  · simp only [FcidumpW.expectedWrites, toList_lit (by with_reducible rfl)]
    rfl
  · simp only [FcidumpW.expectedSource, toList_lit (by with_reducible rfl)]
    rfl

/-- non-vacuity: a domain object with two orbitals (constant arrays are 8-fold symmetric), `nelec = 9.999999999999998`,
and its written header line. -/
example : FcidumpW.Dom fcidumpL ⟨2, fun _ _ => ⟨true, 12345678901234567, -3⟩, fun _ => ⟨false, 10000000000000000, 0⟩,
    some ⟨true, 0, 0⟩, some (9999999999999998, 1000000000000000), none⟩ :=
  ⟨fun _ _ => rfl, ⟨fun _ => rfl, fun _ => rfl, fun _ => rfl⟩,
   fun _ _ => (by decide : (12345678901234567 : Nat) < 10 ^ (16 + 1)), fun _ => (by decide : (10000000000000000 : Nat) < 10 ^ (16 + 1)),
   fun c hc => by cases hc; exact (by decide : (0 : Nat) < 10 ^ (16 + 1))⟩

example : (FcidumpW.dump fcidumpL ⟨1, fun _ _ => ⟨true, 12345678901234567, -3⟩, fun _ => ⟨false, 10000000000000000, 0⟩,
    none, some (9999999999999998, 1000000000000000), some (1, 2)⟩) =
    [" &FCI NORB=1,NELEC=10,MS2=0,\n".toList, "  ORBSYM= 1,\n".toList, "  ISYM=1\n".toList, " &END\n".toList,
     " 1.0000000000000000e+00    1    1    1    1\n".toList, "-1.2345678901234567e-03    1    1    0    0\n".toList] := by
  simp only [toList_lit (by with_reducible rfl)]
  decide +kernel

/-- POSCAR: reading back the written file gives the numbers of the file digit by digit (cell rows, direct coordinates of
every atom, all 16 decimals, any magnitude and sign incl. `-0`), the title (default when absent), and the atoms in the
documented grouping (by element, heaviest first, original order inside a group) — for every number of atoms and every
element of the table. -/
theorem poscar_load_dump (T : Tables) (L : PoscarW.Layout) (hL : PoscarW.LayoutOK L) (o : PoscarW.Obj) (h : PoscarW.Dom T o) :
    PoscarW.load T L (PoscarW.dump T L o) = .ok (PoscarW.norm L o) :=
  PoscarW.load_dump T L hL o h

/-- POSCAR: the only re-ordering is the grouping, which is a permutation that keeps every atom's element and coordinates
together (records are never split), keeps the order inside an element, and is the identity on an already grouped list. -/
theorem poscar_reordering (L : PoscarW.Layout) (o : PoscarW.Obj) :
    (PoscarW.norm L o).atoms.Perm o.atoms ∧
    (∀ z, (PoscarW.norm L o).atoms.filter (fun a => a.zn == z) = o.atoms.filter (fun a => a.zn == z)) ∧
    (PoscarW.norm L o).cell = o.cell :=
  ⟨Poscar.group_perm _ _, fun z => Poscar.group_stable _ _ z, rfl⟩

/-- POSCAR: the layout in the source satisfies the side conditions, every element Z = 1..118 is usable in the element
line, and writer / reader in the source have the shape the model transcribes (eight `print` calls with their fields;
`rvec / angstrom`, the descending element order, `inv(cell).T`, `np.dot(gvecs, r)`; the reader's `s` / `c k` switches,
`split()[:3]`, `angstrom * scaling`, `np.dot(frac, cellvecs)`). -/
theorem poscar_source_shape :
    PoscarW.LayoutOK poscarL ∧ (∀ z ∈ List.range' 1 118, PoscarW.okZ tables z = true) ∧
    poscar_writes = PoscarW.expectedWrites poscarL ∧ poscarSource = PoscarW.expectedSource ∧
    PoscarW.scaleVal poscarL = ⟨false, 10 ^ poscarL.scaleD⟩ := by
  refine ⟨by decide +kernel, fun z hz => (okZ_tables hz).1, ?_, ?_, by decide +kernel⟩
  · simp only [PoscarW.expectedWrites, String.toList_append, toList_lit (by with_reducible rfl)]
    rfl
  · unfold PoscarW.expectedSource
    simp only [toList_lit (by with_reducible rfl)]
    rfl

/-- non-vacuity: a domain object whose numbers fill and overflow the 21 columns, with `-0`, and its file. -/
example : PoscarW.Dom tables ⟨[], [⟨⟨false, 99999999999999999999⟩, ⟨true, 0⟩, ⟨false, 0⟩⟩, ⟨⟨true, 1234567890123456⟩, ⟨false, 5⟩, ⟨false, 0⟩⟩,
    ⟨⟨false, 0⟩, ⟨false, 0⟩, ⟨true, 123456789012345678901⟩⟩], [⟨1, ⟨⟨false, 0⟩, ⟨false, 5000000000000000⟩, ⟨true, 1⟩⟩⟩, ⟨8, ⟨⟨false, 0⟩, ⟨false, 0⟩, ⟨false, 0⟩⟩⟩]⟩ := by
  decide +kernel

example : PoscarW.dump tables poscarL ⟨[], [⟨⟨false, 99999999999999999999⟩, ⟨true, 0⟩, ⟨false, 0⟩⟩], [⟨1, ⟨⟨false, 0⟩, ⟨false, 5000000000000000⟩, ⟨true, 1⟩⟩⟩, ⟨8, ⟨⟨false, 0⟩, ⟨false, 0⟩, ⟨false, 0⟩⟩⟩]⟩ =
    ["Created with IOData\n".toList, "   1.00000000000000\n".toList,
     " 9999.9999999999999999   -0.0000000000000000    0.0000000000000000\n".toList, "O     H    \n".toList, "    1     1\n".toList,
     "Selective dynamics\n".toList, "Direct\n".toList,
     "     0.0000000000000000    0.0000000000000000    0.0000000000000000   F   F   F\n".toList,
     "     0.0000000000000000    0.5000000000000000   -0.0000000000000001   F   F   F\n".toList] := by
  simp only [toList_lit (by with_reducible rfl)]
  decide +kernel

/-- FCHK objects: writing an object through the writer table and reading the file through the reader table returns
every attribute the two tables share, under its own name, with its own value: flattened arrays element by element,
symmetric matrices (Hessian, polarizability, the four density matrices) from their row-major lower triangle for every
size, the quadrupole through the two index vectors, the header fields as in the field layer.  For all tables satisfying
`TablesOK` and all objects of the domain. -/
theorem fchkobj_load_dump (L : Fchk.Layout) (hL : Fchk.LayoutOK L) (Rn : Fchk.RunTypes) (hR : Fchk.RunTypesOK L Rn)
    (W R : List FchkO.Row) (o : FchkO.Obj)
    (hT : FchkO.TablesOK (FchkO.resolve (FchkO.levelOf L.absent o.lot) W) R) (h : FchkO.Dom L W o) :
    FchkO.load L Rn R (FchkO.dump L Rn W o) = .ok (FchkO.norm L Rn W R o) :=
  FchkO.load_dump L hL Rn hR W R o hT h

/-- FCHK objects: what `norm` keeps — an attribute with a writer row `w` and a reader row `r` on the same label comes
back as `r.attr = w.attr` with the value it had (nothing permuted, rescaled or attached to another attribute). -/
theorem fchkobj_norm_faithful (W R : List FchkO.Row) (hT : FchkO.TablesOK W R) (s : FchkO.Store) (r w : FchkO.Row) (hr : r ∈ R)
    (hw : FchkO.findW W r.label = some w) :
    w.attr = r.attr ∧ FchkO.get (FchkO.normStore W R s) r.attr = FchkO.get s r.attr := by
  have ha := (hT.of_findW hr hw).2.1
  exact ⟨ha, ha ▸ FchkO.get_normStore_row W R s hT r hr w hw⟩

/-- FCHK: the shuffles of writer and reader are inverse on every value of the domain: `_triangle_to_dense` undoes the
`np.tril_indices` packing for every matrix size (the number of rows is recovered from the length), an index vector is
undone by its inverse. -/
theorem fchk_shuffles_inverse (d : Nat) (tw tr : FchkO.Tr) (v : FchkO.AVal) (x : Fchk.Value)
    (hv : FchkO.okVal tw v = true) (hi : FchkO.invTr tw tr = true) (hx : FchkO.appW d tw v = some x) : FchkO.appR tr x = some v :=
  FchkO.appR_appW d tw tr v x hv hi hx

/-- FCHK: the tables probed from the source fit together, for each of the four post-SCF levels of theory and for any
other level (`NA`): writer labels distinct; on every shared label writer and reader name the same attribute, their index
shuffles are inverse (`[0,3,5,1,2,4]` against `[0,3,4,1,5,2]` for the quadrupole; triangle against dense) and their unit
factors cancel (`/ amu` against `* amu` for the masses); reader rows that can fire set distinct attributes; every label
fits the 40 columns; the absent-level word is upper case. -/
theorem fchk_tables_ok :
    (∀ lv ∈ FchkO.levels ++ [fchkL.absent], FchkO.TablesOK (FchkO.resolve lv fchkW) fchkR ∧
      ∀ w ∈ FchkO.resolve lv fchkW, Fchk.okLabel fchkL w.label = true) ∧ Chars.upper fchkL.absent = fchkL.absent := by
  refine ⟨fun lv hlv => ⟨FchkO.tablesOK_resolve (by decide +kernel) lv hlv,
    FchkO.forall_mem_resolve ?_ lv hlv⟩, by decide +kernel⟩
  decide +kernel

/-- FCHK: nothing the writer stores is dropped by the reader: at each post-SCF level every written label is read back,
except the two that repeat information written under another label (`Integer atomic weights`, `SCF Energy`); the
masses are written divided by `amu` (unit −1, both labels) and read multiplied by it (unit +1); all other rows carry no unit. -/
theorem fchk_tables_complete :
    (∀ lv ∈ FchkO.levels, ∀ w ∈ FchkO.resolve lv fchkW,
      w.label ∈ fchkR.map (·.label) ∨ w.label ∈ ["Integer atomic weights".toList, "SCF Energy".toList]) ∧
    (∀ w ∈ fchkW, w.unit = if w.attr = "atmasses".toList then -1 else 0) ∧
    (∀ r ∈ fchkR, r.unit = if r.attr = "atmasses".toList then 1 else 0) := by
  simp only [toList_lit (by with_reducible rfl)]
  refine ⟨FchkO.forall_mem_resolve ?_, by decide +kernel, by decide +kernel⟩
  decide +kernel

/-- non-vacuity: a domain object (three atoms) with masses, two charge kinds, a 2×2 SCF density, quadrupole and a
post-SCF density at level CC, and what its reload contains. -/
example : FchkO.Dom fchkL fchkW ⟨['t'], some "opt".toList, some "ccsd".toList, none,
    [("atnums".toList, .ivec [8, 1, 1]), ("atmasses".toList, .vec [⟨false, 159990000, 1⟩, ⟨false, 100800000, 0⟩, ⟨false, 100800000, 0⟩]),
     ("atcharges.esp".toList, .vec [⟨true, 800000000, -1⟩, ⟨false, 400000000, -1⟩, ⟨false, 400000000, -1⟩]),
     ("atcharges.cm5".toList, .vec [⟨true, 700000000, -1⟩, ⟨false, 350000000, -1⟩, ⟨false, 350000000, -1⟩]),
     ("one_rdms.scf".toList, .sym 2 [⟨false, 100000000, 0⟩, ⟨false, 200000000, 0⟩, ⟨false, 300000000, 0⟩]),
     ("one_rdms.post_scf_ao".toList, .sym 1 [⟨false, 123456789, 0⟩]),
     ("moments.2c".toList, .vec [⟨false, 110000000, 1⟩, ⟨false, 120000000, 1⟩, ⟨false, 130000000, 1⟩, ⟨false, 220000000, 1⟩, ⟨false, 230000000, 1⟩, ⟨false, 330000000, 1⟩])]⟩ := by
  simp only [toList_lit (by with_reducible rfl)]
  decide +kernel

example : ((FchkO.fieldsOf 8 (FchkO.resolve (FchkO.levelOf fchkL.absent (some "ccsd".toList)) fchkW)
    [("one_rdms.post_scf_ao".toList, .sym 1 [⟨false, 123456789, 0⟩]),
     ("moments.2c".toList, .vec [⟨false, 11, 1⟩, ⟨false, 12, 1⟩, ⟨false, 13, 1⟩, ⟨false, 22, 1⟩, ⟨false, 23, 1⟩, ⟨false, 33, 1⟩])]).map
      fun f => (String.ofList f.1, f.2)) =
    [("Total CC Density", .reals [⟨false, 123456789, 0⟩]),
     ("Quadrupole Moment", .reals [⟨false, 11, 1⟩, ⟨false, 22, 1⟩, ⟨false, 33, 1⟩, ⟨false, 12, 1⟩, ⟨false, 13, 1⟩, ⟨false, 23, 1⟩])] := by
  simp only [toList_lit (by with_reducible rfl)]
  rfl

/-- WFN: `load_wfn_low` on the written file returns the written arrays: title, atoms (element through the symbol
heuristic, coordinates cut by column), one-based centre and type assignments as zero-based indices, exponents,
per orbital its number, occupation, energy and coefficients, the energy and virial (`nan` when absent) and the `$MOSPIN`
list — for every number of atoms below 10³, every number of primitives and orbitals (ragged last lines of all sections),
every value that fits its column. -/
theorem wfn_load_dump (T : Tables) (L : WfnS.Layout) (hL : WfnS.LayoutOK L) (o : WfnS.Obj) (h : WfnS.Dom T L o) :
    WfnS.load T L (WfnS.dump T L o) = .ok (WfnS.norm L o) :=
  WfnS.load_dump T L hL o h

/-- WFN / WFX sections: chunk and cut for all sizes — a section written `per` items per line (last line ragged) under a
header of `skip` columns is read back item by item by the cut loop `while len(line) >= step`, whatever was read before
and whatever follows. -/
theorem wfn_section_roundtrip (α : Type) (conv : Str → Option α) (start header : Str) (skip step per : Nat) (render : α → Str)
    (hstep : 2 ≤ step) (hper : 0 < per) (hst : startsWith start (ljust skip (header.take skip)) = true)
    (items : List α) (hx : ∀ x ∈ items, (render x).length = step ∧ conv (replaceD (render x)) = some x) (rest : List Str) :
    WfnS.readSec conv start skip step items.length (WfnS.secLines header skip per render items ++ rest) = .ok (items, rest) :=
  WfnS.readSec_secLines conv start header skip step per render hstep hper hst items hx rest

/-- WFN: the layout in the source satisfies the side conditions (reader slices = writer columns, section names start
their lines, items at least two wide), all 118 elements survive the symbol heuristic, and the `FMT_*` templates, the
five section definitions, the `_dump_helper_section` / `_load_helper_section` calls, the reader's slices and string
constants in the source are the ones the model transcribes. -/
theorem wfn_source_shape :
    WfnS.LayoutOK wfnL ∧ (∀ z ∈ List.range' 1 118, WfnS.okZ tables wfnL z = true) ∧ wfnSource = WfnS.expectedSource wfnL :=
  ⟨by decide +kernel, fun _ hz => (okZ_tables hz).2.1, by
    simp only [WfnS.expectedSource, toList_lit (by with_reducible rfl)]
    rfl⟩

/-- non-vacuity: a domain object with 7 primitives (two ragged lines of exponents), two orbitals, no energy, a spin list,
coordinates filling their 12 columns. -/
example : WfnS.Dom tables wfnL ⟨[], [⟨8, ⟨true, 9912345678⟩, ⟨false, 99912345678⟩, ⟨true, 0⟩⟩, ⟨17, ⟨false, 0⟩, ⟨false, 1⟩, ⟨false, 2⟩⟩],
    (List.range 7).map (fun k => (k % 2, k, ⟨false, 12345678 + k, -2⟩)),
    [⟨⟨false, 20000000⟩, ⟨true, 20123456⟩, (List.range 7).map (fun k => ⟨k % 2 == 1, 123456789, 0⟩)⟩,
     ⟨⟨false, 0⟩, ⟨false, 500000⟩, (List.range 7).map (fun k => ⟨false, 100000000 + k, -1⟩)⟩],
    none, some ⟨false, 200000001⟩, some [3, 3]⟩ := by
  decide +kernel

/-- WFX: `parse_wfx` on the written file holds every section under its tag, with its lines in order, and the orbital
numbers 1, 2, … under `<MO Numbers>` — for every list of sections with distinct well-formed tags: text sections, integer
sections of any length (ten per line), real sections of any length (four or three per line, `NAN` included) and the
orbital section with any number of orbitals and coefficients. -/
theorem wfx_parse_dump (L : WfxS.Layout) (secs : List WfxS.Sec) (h : WfxS.Dom L secs) :
    WfxS.parse (WfxS.dump L secs) = .ok (WfxS.norm L secs) :=
  WfxS.parse_dump L secs h

/-- WFX: the typed decoding of `load_data_wfx` on the lines held for a number section returns the numbers that were
written, in order — every count (ragged last lines), every integer, every real digit by digit (mantissa and exponent),
NaN as NaN. -/
theorem wfx_numbers (L : WfxS.Layout) (hL : WfxS.LayoutOK L) (per : Nat) (hper : 0 < per) :
    (∀ l : List Int, WfxS.decodeInts (WfxS.stripAll (WfxS.numLines per intToDec l)) = some l) ∧
    (∀ l : List (Option Sci), (∀ x ∈ l, WfxS.okSci L x = true) →
      WfxS.decodeReals L.d (WfxS.stripAll (WfxS.numLines per (WfxS.real L) l)) = some l) :=
  ⟨WfxS.decodeInts_lines per hper, fun l hx => WfxS.decodeReals_lines L hL per hper l hx⟩

/-- WFX: the writer's `print` calls and the string constants of `parse_wfx` in the source are the ones the model
transcribes (`{: ,.14E}`, ten integers / four reals / three coordinates per line, the `<MO Number>` records, the
closing tag `"</" + tag.lstrip("<")`). -/
theorem wfx_source_shape :
    WfxS.LayoutOK wfxL ∧ wfx_writes = WfxS.expectedWrites wfxL ∧ wfx_parse_consts = WfxS.expectedParseConsts := by
  refine ⟨by decide +kernel, ?_, by decide +kernel⟩
  simp only [WfxS.expectedWrites, WfxS.joinExpr, WfxS.specR, String.toList_append, toList_lit (by with_reducible rfl)]
  rfl

/-- non-vacuity: four sections (text, eleven integers, five reals with a NaN, two orbitals of five coefficients). -/
example : WfxS.Dom wfxL [⟨"<Title>".toList, .text [" t ".toList]⟩, ⟨"<Primitive Centers>".toList, .ints 10 (List.replicate 11 1)⟩,
    ⟨"<Primitive Exponents>".toList, .reals 4 [some ⟨false, 123456789012345, 2⟩, none, some ⟨true, 100000000000000, -3⟩, some ⟨false, 0, 0⟩, some ⟨false, 5, 0⟩]⟩,
    ⟨WfxS.moTag, .mo 4 [List.replicate 5 (some ⟨false, 100000000000000, 0⟩), List.replicate 5 (some ⟨true, 200000000000000, 0⟩)]⟩] := by
  simp only [toList_lit (by with_reducible rfl)]
  decide +kernel

/-- QCSchema molecule: reading the written dictionary returns every mapped attribute with its value: atomic numbers
through the symbols, the flattened geometry, charge, `spinpol` through the multiplicity (`+ 1` / `− 1`), the title when
not empty, masses, connectivity, the symmetry number when not zero, every passed-through sub-key of `extra["molecule"]`,
the unparsed keys; core charges come back as "atomic number or ghost" through `real`; absent charge / multiplicity as the
reader's defaults; the provenance trail one entry longer.  For all key tables satisfying `KeysOK` and every object. -/
theorem qcschema_load_dump (T : Tables) (K : Qcs.Keys) (known : List Str) (reshapes : Bool) (hK : Qcs.KeysOK K K known) (m : Qcs.Mol)
    (h : Qcs.Dom T K known reshapes m) : Qcs.load T K known reshapes (Qcs.dump T K m) = .ok (Qcs.norm K.pass m) :=
  Qcs.load_dump T K known reshapes hK m h

/-- QCSchema molecule: the key tables of writer and reader read from the source coincide (same JSON key for every core
attribute, same pass-through pairs), all keys are distinct and known to `_find_passthrough_dict`, all 118 elements map
back through `sym2num[symbol.title()]`, and the value conversions in the source are the ones the model transcribes. -/
theorem qcschema_keys_ok :
    qcsW = qcsR ∧ Qcs.KeysOK qcsW qcsR qcsKnown ∧ (∀ z ∈ List.range' 1 118, Qcs.okZ tables z = true) ∧
    qcsExprs = Qcs.expectedExprs ∧ qcsBondsExpr = Qcs.bondsExprs.getD (if qcsReshapes then 1 else 0) [] := by
  refine ⟨rfl, by decide +kernel, fun _ hz => (okZ_tables hz).2.2, ?_, ?_⟩
  · simp only [Qcs.expectedExprs, toList_lit (by with_reducible rfl)]
    rfl
  · simp only [Qcs.bondsExprs, toList_lit (by with_reducible rfl)]
    rfl

/-- non-vacuity: water with a ghost atom, half-integral spin, a bond, a passed-through comment, an unparsed key. -/
example : Qcs.Dom tables qcsW qcsKnown false ⟨[8, 1, 1], List.replicate 9 ⟨false, 1, 2⟩, some ⟨false, -1, 1⟩, some ⟨false, 1, 2⟩, some ['w'],
    [⟨false, 6, 1⟩, ⟨false, 0, 1⟩, ⟨false, 1, 1⟩], none, some [(0, 1, 1)], some ⟨true, 0, 1⟩,
    [("comment".toList, "\"c\"".toList)], .one "{}".toList, [("my_key".toList, "[1]".toList)]⟩ := by
  simp only [toList_lit (by with_reducible rfl)]
  decide +kernel

end Iodata.Props.C02W
