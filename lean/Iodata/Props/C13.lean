/- C13 — trajectories keep every frame, in order, each identical to a single load.

   The property theorems about the model `Model/Traj.lean` (the readers, the `load_many` loops and `dump_many` that the
   driver runs in the `traj`, `trajc`, `dumpm` and `fchkm` streams), with the definitions and lemmas that only they
   use: the expected `dump_many` trace, test frames, the witnesses' inputs.  XYZ, SDF, PDB, MOL2 are read against the
   library's writer as modelled; GRO and extended XYZ, for which the library has no writer, against the renderers of
   well-formed frames `groRender` (`Model/Traj.lean`) and `extRender` (`Lemmas/Traj.lean`), which only the theorems
   use.  Per-line field parsing is a parameter: `pa`/`pb` parse an atom / bond record, `fa`/`fb` print one, with the
   round-trip hypothesis `pa (fa a) = some a`; the count lines are printed by `showNat` / `fc` with the stated parse
   hypotheses.  -/
import Iodata.Lemmas.Traj
import Iodata.Gen.TrajFlow
namespace Iodata.Props.C13
open Iodata.Traj

/-! ## The model's loops and funnel are the ones found in the source (regenerated each run) -/

/-- xyz.load_many: skip blank lines (end of file = return), `except StopIteration: raise LoadError` around load_one -/
theorem gen_xyz_loop : Iodata.Gen.TrajFlow.xyz = xyzSkel := rfl
theorem gen_extxyz_loop : Iodata.Gen.TrajFlow.extxyz = xyzSkel := rfl
theorem gen_sdf_loop : Iodata.Gen.TrajFlow.sdf = sdfSkel := rfl
theorem gen_gromacs_loop : Iodata.Gen.TrajFlow.gromacs = groSkel := rfl
/-- pdb.load_many: `except LoadError: if nframe == 0: raise; return` -/
theorem gen_pdb_loop : Iodata.Gen.TrajFlow.pdb = pdbSkel := rfl
theorem gen_mol2_loop : Iodata.Gen.TrajFlow.mol2 = mol2Skel := rfl
theorem gen_mol2_bond_check : Iodata.Gen.TrajFlow.mol2BondCheck = true := rfl
/-- api.load_many: `except StopIteration: return / except LoadError: raise / except Exception: raise LoadError` -/
theorem gen_api_load_many : Iodata.Gen.TrajFlow.apiLoadMany = apiHandlersRef := rfl

/-- api.dump_many touches the iterable only through `iter`, one `next` before the first check, and the `for`
    inside the checking generator; `open` comes after the first check; no `list(...)`. -/
theorem gen_api_dump_many : Iodata.Gen.TrajFlow.apiDumpMany =
    ["iter(iter_data)", "next(iter_data)", "check(first)", "prepare(first)", "yield first", "for other in iter_data",
     "check(other)", "yield prepared(other)", "prepare(other)", "open",
     "format.dump_many(f, checking_iterator())"] := rfl

/-- every format's dump_many is `for data in datas: dump_one(f, data)` -/
theorem gen_fmt_dump_many : Iodata.Gen.TrajFlow.fmtDumpMany =
    [("xyz", ["for data in datas:\n    dump_one(f, data, atom_columns)"]),
     ("pdb", ["for data in datas:\n    dump_one(f, data)"]),
     ("mol2", ["for data in datas:\n    dump_one(f, data)"]),
     ("sdf", ["for data in datas:\n    dump_one(f, data)"])] := rfl

/-- the point / step expressions of fchk.load_many that `fchkGo` transcribes -/
theorem gen_fchk_loop : Iodata.Gen.TrajFlow.fchkLoop =
    ["f'7d'", "f'{prefix} {ipoint + 1:7d} Geometries'", "f'{prefix} {ipoint + 1:7d} Gradient at each geome'",
     "f'{prefix} {ipoint + 1:7d} Results for each geome'", "for (ipoint, nstep) in enumerate(nsteps)",
     "for (istep, (energy, recor, atcoords, gradients)) in enumerate(trajectory)", "ipoint=ipoint", "istep=istep",
     "len(trajectory) != nstep", "npoint=len(nsteps)", "nstep=len(trajectory)", "prefix == 'IRC point'",
     "reshape(-1, natom, 3)", "results_geoms[1::2]", "results_geoms[::2]"] := rfl

/-- With the clauses of the tree the api lets nothing but LoadError out, and never turns an exception of the
    format's generator into a silent end: PEP 479 makes an escaping StopIteration a RuntimeError, which the
    `except Exception` clause wraps (the `except StopIteration: return` clause is unreachable for it). -/
theorem api_funnel (g : GenFinal) :
    apiFinalOf apiHandlersRef g = (match apiFinal g with | .done => .done | .loadError ln => .loadError ln) := by
  cases g with
  | ret => rfl
  | raised e s => cases e <;> rfl

/-- an exception of the generator is never swallowed by the api -/
theorem api_never_swallows (e : Exc) (s : Lit) : apiFinal (.raised e s) = .loadError s.lineno := rfl

/-- `back` pushes on the stack: the pushed line is the next one returned, the line number goes back by one -/
theorem lit_back_next (l : Line) (r : LitRaw) :
    (LitRaw.back l r).next = (some l, { r with lineno := r.lineno - 1 + 1 }) := by
  simp [LitRaw.back, LitRaw.next]

theorem lit_refines_back (l : Line) (r : LitRaw) :
    (LitRaw.back l r).abs = ⟨l :: r.abs.pending, r.abs.lineno - 1⟩ := abs_back l r

theorem lit_refines_next (r : LitRaw) :
    (match r.next with
     | (some l, r') => next r.abs = .ok l r'.abs
     | (none, r') => next r.abs = .raise .stop r'.abs) := abs_next r

def restTrace : Nat → Nat → List Ev
  | 0, i => [.pull i, .close]
  | n + 1, i => .pull i :: .check i :: .write i :: restTrace n (i + 1)

theorem dumpRest_valid {F : Type} (valid : F → Bool) (dumpOne : F → List Line) (boom : Bool) :
    ∀ (fs : List F) (i : Nat), (∀ f ∈ fs, valid f = true) →
      dumpRest valid dumpOne boom fs i =
        (restTrace fs.length i, fs.flatMap dumpOne, if boom then .dumpErrorUncaught else .ok)
  | [], i, _ => by cases boom <;> simp [dumpRest, restTrace]
  | f :: t, i, h => by
    have hf : valid f = true := h f (by simp)
    simp [dumpRest, hf, restTrace, dumpRest_valid valid dumpOne boom t (i + 1) (fun x hx => h x (by simp [hx]))]

/-- **dump_many writes `concat (map dump_one frames)`** and its consumption trace is
    `pull₀ check₀ open write₀ pull₁ check₁ write₁ … pullₙ close`: the file is opened after the first item was
    checked, item i+1 is pulled only after item i was written, every item is pulled once.  With an iterator that
    raises after its items (`boom`), all items pulled before are in the file and the outcome is DumpError. -/
theorem dumpMany_lines_and_trace {F : Type} (valid : F → Bool) (dumpOne : F → List Line) (f : F) (fs : List F)
    (boom : Bool) (h : ∀ x ∈ f :: fs, valid x = true) :
    dumpMany valid dumpOne (f :: fs) boom =
      ⟨.pull 0 :: .check 0 :: .openFile :: .write 0 :: restTrace fs.length 1, (f :: fs).flatMap dumpOne, true,
       if boom then .dumpErrorUncaught else .ok⟩ := by
  have hf : valid f = true := h f (by simp)
  simp [dumpMany, hf, dumpRest_valid valid dumpOne boom fs 1 (fun x hx => h x (by simp [hx]))]

theorem restTrace_count_pull : ∀ (n i j : Nat), (restTrace n i).count (.pull j) = if i ≤ j ∧ j ≤ i + n then 1 else 0
  | 0, i, j => by
    by_cases h : i = j <;> simp [restTrace, h] <;> omega
  | n + 1, i, j => by
    have ih := restTrace_count_pull n (i + 1) j
    by_cases h : i = j
    · subst h; simp [restTrace, ih]; omega
    · simp [restTrace, ih, h]
      by_cases h2 : i + 1 ≤ j ∧ j ≤ i + 1 + n
      · rw [if_pos h2, if_pos (by omega)]
      · rw [if_neg h2, if_neg (by omega)]

/-- each of the n items, and the end of the iterable, is pulled exactly once; nothing else is pulled -/
theorem dumpMany_pulls_once {F : Type} (valid : F → Bool) (dumpOne : F → List Line) (f : F) (fs : List F)
    (boom : Bool) (h : ∀ x ∈ f :: fs, valid x = true) (j : Nat) :
    (dumpMany valid dumpOne (f :: fs) boom).events.count (.pull j) = if j ≤ fs.length + 1 then 1 else 0 := by
  rw [dumpMany_lines_and_trace valid dumpOne f fs boom h]
  by_cases hj : j = 0
  · subst hj; simp [restTrace_count_pull]
  · have hj' : ¬ 0 = j := fun e => hj e.symm
    simp [restTrace_count_pull, hj']
    by_cases h2 : j ≤ fs.length + 1
    · rw [if_pos h2, if_pos (by omega)]
    · rw [if_neg h2, if_neg (by omega)]

/-- an empty iterable: DumpError before the file is opened -/
theorem dumpMany_empty {F : Type} (valid : F → Bool) (dumpOne : F → List Line) :
    dumpMany valid dumpOne [] false = ⟨[.pull 0], [], false, .dumpErrorEmpty⟩ := rfl

/-- a first item that fails the check: PrepareDumpError before the file is opened, only one item pulled -/
theorem dumpMany_first_invalid {F : Type} (valid : F → Bool) (dumpOne : F → List Line) (f : F) (fs : List F)
    (boom : Bool) (h : valid f = false) :
    dumpMany valid dumpOne (f :: fs) boom = ⟨[.pull 0, .check 0], [], false, .prepareError⟩ := by
  simp [dumpMany, h]

/-- a later item that fails the check: the frames before it are in the file, nothing after it is pulled -/
theorem dumpRest_invalid_at {F : Type} (valid : F → Bool) (dumpOne : F → List Line) (boom : Bool) :
    ∀ (pre : List F) (bad : F) (post : List F) (i : Nat), (∀ f ∈ pre, valid f = true) → valid bad = false →
      (dumpRest valid dumpOne boom (pre ++ bad :: post) i).2 = (pre.flatMap dumpOne, .prepareError) ∧
      ∀ j, j > i + pre.length → (dumpRest valid dumpOne boom (pre ++ bad :: post) i).1.count (.pull j) = 0
  | [], bad, post, i, _, hb => by
    simp [dumpRest, hb, List.count_cons]
    intro j hj; omega
  | f :: pre, bad, post, i, h, hb => by
    have hf : valid f = true := h f (by simp)
    obtain ⟨h1, h2⟩ := dumpRest_invalid_at valid dumpOne boom pre bad post (i + 1) (fun x hx => h x (by simp [hx])) hb
    constructor
    · simp [dumpRest, hf, h1]
    · intro j hj
      have := h2 j (by simp at hj ⊢; omega)
      simp [dumpRest, hf, List.count_cons, this]
      simp at hj; omega

section xyz
variable {α : Type} (showNat : Nat → Line) (pa : Line → Option α) (fa : α → Line)

/-- **prefix-consumption law**: a frame as written, followed by anything, is read back as `xyzNorm f` and exactly
    its lines are consumed.  Domain: the title is a single line (no `'\n'`); titles that look like counts,
    separators or are blank are inside the domain (the title is taken by position, never interpreted). -/
theorem xyz_prefix_law (hs : ∀ n, pyInt (showNat n) = some (n : Int)) (h : ∀ a, pa (fa a) = some a)
    (f : XyzFrame α) (hnl : '\n' ∉ f.title) (rest : List Line) (ln : Int) :
    ∃ ln', xyzLoadOne pa ⟨xyzDumpOne showNat fa f ++ rest, ln⟩ = .ok (xyzNorm f) ⟨rest, ln'⟩ :=
  xyz_loadOne_dump showNat pa fa hs h f hnl rest ln

/-- **round trip, any number of frames**: reading the file written by dump_many yields exactly the frames, in
    order, each as its single-frame file would load; trailing blank lines are ignored. -/
theorem xyz_roundtrip (hs : ∀ n, pyInt (showNat n) = some (n : Int)) (hb : ∀ n, isBlank (showNat n) = false)
    (h : ∀ a, pa (fa a) = some a) (fs : List (XyzFrame α)) (hne : fs ≠ []) (hnl : ∀ f ∈ fs, '\n' ∉ f.title)
    (blanks : List Line) (hbl : ∀ l ∈ blanks, isBlank l = true) :
    loadMany xyzSkel (xyzLoadOne pa) (fs.flatMap (xyzDumpOne showNat fa) ++ blanks) = ⟨fs.map xyzNorm, .done⟩ :=
  (xyz_frames hs hb h).iterates blanks |>.then_end fs hne hnl
    (fun ln => by simp [xyzSkel, runPeek, skipBlank_eof hbl])

/-- **malformed_reached**: complete frames followed by a frame on which `load_one` fails (whatever the exception:
    a bad count, an unparsable atom line, the end of the file) — the frames before it are yielded, then LoadError
    is raised; the bad frame is neither skipped nor does it end the sequence silently. -/
theorem xyz_malformed_reached (hs : ∀ n, pyInt (showNat n) = some (n : Int)) (hb : ∀ n, isBlank (showNat n) = false)
    (h : ∀ a, pa (fa a) = some a) (fs : List (XyzFrame α)) (hnl : ∀ f ∈ fs, '\n' ∉ f.title)
    (l : Line) (t : List Line) (hl : isBlank l = false)
    (hbad : ∀ ln, ∃ e s, xyzLoadOne pa ⟨l :: t, ln⟩ = .raise e s) :
    ∃ ln, loadMany xyzSkel (xyzLoadOne pa) (fs.flatMap (xyzDumpOne showNat fa) ++ l :: t) =
      ⟨fs.map xyzNorm, .loadError ln⟩ :=
  (xyz_frames hs hb h).iterates (l :: t) |>.then_bad fs hnl (fun ln first => by
    obtain ⟨e, s, hst⟩ := hbad ln
    exact ⟨_, e, s, skipBlank_go hl, hst, stopToLoadError e⟩)

/-- **truncated_last**: a file cut inside its last frame (after any number of complete frames, also none) yields
    exactly the complete frames and then raises LoadError — never a silent end, never a partial frame. -/
theorem xyz_truncated_last (hs : ∀ n, pyInt (showNat n) = some (n : Int)) (hb : ∀ n, isBlank (showNat n) = false)
    (h : ∀ a, pa (fa a) = some a) (fs : List (XyzFrame α)) (hnl : ∀ f ∈ fs, '\n' ∉ f.title)
    (f : XyzFrame α) (hf : '\n' ∉ f.title) (m : Nat) (hm0 : 0 < m) (hm : m < (xyzDumpOne showNat fa f).length) :
    ∃ ln, loadMany xyzSkel (xyzLoadOne pa)
        (fs.flatMap (xyzDumpOne showNat fa) ++ (xyzDumpOne showNat fa f).take m) = ⟨fs.map xyzNorm, .loadError ln⟩ := by
  obtain ⟨k, rfl⟩ : ∃ k, m = k + 1 := ⟨m - 1, by omega⟩
  exact (xyz_frames hs hb h).then_cut (xyzLoadOne_extends pa) stopToLoadError fs hnl f hf (k + 1) hm
    (fun _ _ => skipBlank_go (hb _))

end xyz

section sdf
variable {α β : Type} (fc : Nat → Nat → Line) (pa : Line → Option α) (fa : α → Line)
  (pb : Line → Option β) (fb : β → Line)

/-- **prefix-consumption law** for SDF: title by position (a title `$$$$` or `M  END` is inside the domain), two
    comment lines, counts, atom and bond blocks, then the search for `$$$$` stops at the record's own terminator. -/
theorem sdf_prefix_law (hc : SdfCountsOk fc) (ha : ∀ a, pa (fa a) = some a) (hb : ∀ b, pb (fb b) = some b)
    (f : SdfFrame α β) (hnl : '\n' ∉ f.title) (rest : List Line) (ln : Int) :
    ∃ ln', sdfLoadOne pa pb ⟨sdfDumpOne fc fa fb f ++ rest, ln⟩ = .ok (sdfNorm f) ⟨rest, ln'⟩ :=
  sdf_loadOne_dump fc pa fa pb fb hc ha hb f hnl rest ln

/-- **round trip, any number of molecules**, trailing blank lines ignored -/
theorem sdf_roundtrip (hc : SdfCountsOk fc) (ha : ∀ a, pa (fa a) = some a) (hb : ∀ b, pb (fb b) = some b)
    (fs : List (SdfFrame α β)) (hne : fs ≠ []) (hnl : ∀ f ∈ fs, '\n' ∉ f.title)
    (blanks : List Line) (hbl : ∀ l ∈ blanks, isBlank l = true) :
    loadMany sdfSkel (sdfLoadOne pa pb) (fs.flatMap (sdfDumpOne fc fa fb) ++ blanks) = ⟨fs.map sdfNorm, .done⟩ :=
  (sdf_frames hc ha hb).iterates blanks |>.then_end fs hne hnl
    (fun ln => by simp [sdfSkel, runPeek, collectGo_none hbl])

/-- **malformed_reached / truncated_last** for SDF: after any number of complete molecules, a block on which
    `load_one` raises (StopIteration because the file ends inside the header, the atom or the bond block; LoadError
    because `$$$$` is missing or the record is not V2000; ValueError for an unreadable count or field) makes the
    sequence end with LoadError after exactly the complete molecules. -/
theorem sdf_malformed_reached (hc : SdfCountsOk fc) (ha : ∀ a, pa (fa a) = some a) (hb : ∀ b, pb (fb b) = some b)
    (fs : List (SdfFrame α β)) (hnl : ∀ f ∈ fs, '\n' ∉ f.title)
    (bad : List Line) (hnb : ∃ l ∈ bad, isBlank l = false)
    (hbad : ∀ ln, ∃ e s, sdfLoadOne pa pb ⟨bad, ln⟩ = .raise e s) :
    ∃ ln, loadMany sdfSkel (sdfLoadOne pa pb) (fs.flatMap (sdfDumpOne fc fa fb) ++ bad) =
      ⟨fs.map sdfNorm, .loadError ln⟩ :=
  (sdf_frames hc ha hb).iterates bad |>.then_bad fs hnl (fun ln first => by
    obtain ⟨e, s, hst⟩ := hbad ln
    exact ⟨_, e, s, peekPushAll_go hnb, hst, stopToLoadError e⟩)

/-- a molecule cut inside its four header lines: StopIteration in `load_one` -/
theorem sdf_cut_header_stops (t : List Line) (ht : 0 < t.length ∧ t.length < 4) (ln : Int) :
    ∃ s, sdfLoadOne pa pb ⟨t, ln⟩ = .raise .stop s := by
  match t, ht with
  | [a], _ => exact ⟨_, rfl⟩
  | [a, b], _ => exact ⟨_, rfl⟩
  | [a, b, c], _ => exact ⟨_, rfl⟩
  | _ :: _ :: _ :: _ :: _, h => simp at h; omega

/-- **truncated_last for SDF, EVERY cut point**: a written file cut after `m` lines of its last record
    (`0 < m < all`: inside the header, the atom block, the bond block, before `M  END` or before `$$$$`), after any
    number of complete records: exactly the complete records are yielded, then LoadError.  `hnb`: the cut part holds
    a non-blank line — always the case from the counts line on (`m ≥ 4`); a cut that leaves only blank lines of the
    next record (blank title, the two comment lines) is a clean end (`sdf_roundtrip` with `blanks`). -/
theorem sdf_truncated_last (hc : SdfCountsOk fc) (ha : ∀ a, pa (fa a) = some a) (hb : ∀ b, pb (fb b) = some b)
    (fs : List (SdfFrame α β)) (hnl : ∀ f ∈ fs, '\n' ∉ f.title) (f : SdfFrame α β) (hf : '\n' ∉ f.title)
    (m : Nat) (hm0 : 0 < m) (hm : m < (sdfDumpOne fc fa fb f).length)
    (hnb : ∃ l ∈ (sdfDumpOne fc fa fb f).take m, isBlank l = false) :
    ∃ ln, loadMany sdfSkel (sdfLoadOne pa pb)
        (fs.flatMap (sdfDumpOne fc fa fb) ++ (sdfDumpOne fc fa fb f).take m) = ⟨fs.map sdfNorm, .loadError ln⟩ :=
  (sdf_frames hc ha hb).then_cut (sdfLoadOne_extends pa pb) stopToLoadError fs hnl f hf m hm
    (fun _ _ => peekPushAll_go hnb)

/-- from the counts line on the cut part always holds a non-blank line -/
theorem sdf_cut_nonblank (hc : SdfCountsOk fc) (f : SdfFrame α β) (hf : '\n' ∉ f.title) (m : Nat) (hm : 4 ≤ m) :
    ∃ l ∈ (sdfDumpOne fc fa fb f).take m, isBlank l = false := by
  obtain ⟨k, rfl⟩ : ∃ k, m = k + 4 := ⟨m - 4, by omega⟩
  refine ⟨fc f.atoms.length f.bonds.length, ?_, (hc _ _).2.2.2⟩
  simp [sdfDumpOne, splitNl_no_nl (titleOr_no_nl hf)]
end sdf

/-! ## GRO and extended XYZ (readers only; the library has no writer for them)

   The round trip is stated against the harness's own renderer of well-formed frames (`groRender`, `extRender`):
   `loadMany (flatMap specRender fs) = ok (map norm fs)`.  The per-line parsers are parameters: `pt` accepts the
   title line (GRO: the optional `t=` time stamp must parse; extXYZ: `_parse_title`), `pa` an atom line, `pc` the
   GRO box line. -/

section gro
variable {α : Type} (showNat : Nat → Line) (pt : Line → Bool) (pa : Line → Option α) (pc : Line → Bool)
  (fa : α → Line) (box : Line)

/-- **prefix-consumption law for GRO**: title (any text that passes `pt`: blank, a number, with commas — it is
    taken by position), count, atom lines, box line -/
theorem gro_prefix_law (hs : ∀ n, pyInt (showNat n) = some (n : Int)) (ha : ∀ a, pa (fa a) = some a)
    (hbox : pc box = true) (f : XyzFrame α) (hpt : pt f.title = true) (rest : List Line) (ln : Int) :
    ∃ ln', groLoadOne pt pa pc ⟨groRender showNat fa box f ++ rest, ln⟩ = .ok (groNorm f) ⟨rest, ln'⟩ :=
  gro_loadOne_render showNat pt pa pc fa box hs ha hbox f hpt rest ln

/-- **round trip, any number of frames**, trailing blank lines ignored -/
theorem gro_roundtrip (hs : ∀ n, pyInt (showNat n) = some (n : Int)) (hb : ∀ n, isBlank (showNat n) = false)
    (ha : ∀ a, pa (fa a) = some a) (hbox : pc box = true) (fs : List (XyzFrame α)) (hne : fs ≠ [])
    (hpt : ∀ f ∈ fs, pt f.title = true) (blanks : List Line) (hbl : ∀ l ∈ blanks, isBlank l = true) :
    loadMany groSkel (groLoadOne pt pa pc) (fs.flatMap (groRender showNat fa box) ++ blanks) =
      ⟨fs.map groNorm, .done⟩ :=
  (gro_frames showNat pt pa pc fa box hs hb ha hbox).iterates blanks |>.then_end fs hne hpt
    (fun ln => by simp [groSkel, sdfSkel, runPeek, collectGo_none hbl])

/-- **malformed_reached**: complete frames, then lines (not all blank) on which `load_one` raises — a bad count, an
    unparsable atom or box line, a bad time stamp, the end of the file: the complete frames, then LoadError -/
theorem gro_malformed_reached (hs : ∀ n, pyInt (showNat n) = some (n : Int)) (hb : ∀ n, isBlank (showNat n) = false)
    (ha : ∀ a, pa (fa a) = some a) (hbox : pc box = true) (fs : List (XyzFrame α))
    (hpt : ∀ f ∈ fs, pt f.title = true) (bad : List Line) (hnb : ∃ l ∈ bad, isBlank l = false)
    (hbad : ∀ ln, ∃ e s, groLoadOne pt pa pc ⟨bad, ln⟩ = .raise e s) :
    ∃ ln, loadMany groSkel (groLoadOne pt pa pc) (fs.flatMap (groRender showNat fa box) ++ bad) =
      ⟨fs.map groNorm, .loadError ln⟩ :=
  (gro_frames showNat pt pa pc fa box hs hb ha hbox).iterates bad |>.then_bad fs hpt (fun ln first => by
    obtain ⟨e, s, hst⟩ := hbad ln
    exact ⟨_, e, s, peekPushAll_go hnb, hst, stopToLoadError e⟩)

/-- **truncated_last, every cut point** (`hnb`: the cut part is not only a blank title line) -/
theorem gro_truncated_last (hs : ∀ n, pyInt (showNat n) = some (n : Int)) (hb : ∀ n, isBlank (showNat n) = false)
    (ha : ∀ a, pa (fa a) = some a) (hbox : pc box = true) (fs : List (XyzFrame α))
    (hpt : ∀ f ∈ fs, pt f.title = true) (f : XyzFrame α) (hf : pt f.title = true) (m : Nat) (hm0 : 0 < m)
    (hm : m < (groRender showNat fa box f).length)
    (hnb : ∃ l ∈ (groRender showNat fa box f).take m, isBlank l = false) :
    ∃ ln, loadMany groSkel (groLoadOne pt pa pc)
        (fs.flatMap (groRender showNat fa box) ++ (groRender showNat fa box f).take m) =
      ⟨fs.map groNorm, .loadError ln⟩ :=
  (gro_frames showNat pt pa pc fa box hs hb ha hbox).then_cut (groLoadOne_extends pt pa pc) stopToLoadError fs hpt f hf
    m hm (fun _ _ => peekPushAll_go hnb)

/-- from the count line on the cut part holds a non-blank line -/
theorem gro_cut_nonblank (hb : ∀ n, isBlank (showNat n) = false) (f : XyzFrame α) (m : Nat) (hm : 2 ≤ m) :
    ∃ l ∈ (groRender showNat fa box f).take m, isBlank l = false := by
  obtain ⟨k, rfl⟩ : ∃ k, m = k + 2 := ⟨m - 2, by omega⟩
  exact ⟨showNat f.atoms.length, by simp [groRender], hb _⟩
end gro

section ext
variable {α : Type} (showNat : Nat → Line) (pt : Line → Bool) (pa : Line → Option α) (fa : α → Line)

/-- **prefix-consumption law for extended XYZ**: `load_one` reads the count and the title line, parses the title,
    pushes both back and lets the XYZ reader consume the frame -/
theorem extxyz_prefix_law (hs : ∀ n, pyInt (showNat n) = some (n : Int)) (ha : ∀ a, pa (fa a) = some a)
    (f : XyzFrame α) (hpt : pt f.title = true) (rest : List Line) (ln : Int) :
    ∃ ln', extLoadOne pt pa ⟨extRender showNat fa f ++ rest, ln⟩ = .ok (extNorm f) ⟨rest, ln'⟩ :=
  ext_loadOne_render showNat pt pa fa hs ha f hpt rest ln

theorem extxyz_roundtrip (hs : ∀ n, pyInt (showNat n) = some (n : Int)) (hb : ∀ n, isBlank (showNat n) = false)
    (ha : ∀ a, pa (fa a) = some a) (fs : List (XyzFrame α)) (hne : fs ≠ [])
    (hpt : ∀ f ∈ fs, pt f.title = true) (blanks : List Line) (hbl : ∀ l ∈ blanks, isBlank l = true) :
    loadMany xyzSkel (extLoadOne pt pa) (fs.flatMap (extRender showNat fa) ++ blanks) = ⟨fs.map extNorm, .done⟩ :=
  (ext_frames showNat pt pa fa hs hb ha).iterates blanks |>.then_end fs hne hpt
    (fun ln => by simp [xyzSkel, runPeek, skipBlank_eof hbl])

theorem extxyz_malformed_reached (hs : ∀ n, pyInt (showNat n) = some (n : Int))
    (hb : ∀ n, isBlank (showNat n) = false) (ha : ∀ a, pa (fa a) = some a) (fs : List (XyzFrame α))
    (hpt : ∀ f ∈ fs, pt f.title = true) (l : Line) (t : List Line) (hl : isBlank l = false)
    (hbad : ∀ ln, ∃ e s, extLoadOne pt pa ⟨l :: t, ln⟩ = .raise e s) :
    ∃ ln, loadMany xyzSkel (extLoadOne pt pa) (fs.flatMap (extRender showNat fa) ++ l :: t) =
      ⟨fs.map extNorm, .loadError ln⟩ :=
  (ext_frames showNat pt pa fa hs hb ha).iterates (l :: t) |>.then_bad fs hpt (fun ln first => by
    obtain ⟨e, s, hst⟩ := hbad ln
    exact ⟨_, e, s, skipBlank_go hl, hst, stopToLoadError e⟩)

/-- **truncated_last, every cut point** -/
theorem extxyz_truncated_last (hs : ∀ n, pyInt (showNat n) = some (n : Int))
    (hb : ∀ n, isBlank (showNat n) = false) (ha : ∀ a, pa (fa a) = some a) (fs : List (XyzFrame α))
    (hpt : ∀ f ∈ fs, pt f.title = true) (f : XyzFrame α) (hf : pt f.title = true) (m : Nat) (hm0 : 0 < m)
    (hm : m < (extRender showNat fa f).length) :
    ∃ ln, loadMany xyzSkel (extLoadOne pt pa)
        (fs.flatMap (extRender showNat fa) ++ (extRender showNat fa f).take m) = ⟨fs.map extNorm, .loadError ln⟩ := by
  obtain ⟨k, rfl⟩ : ∃ k, m = k + 1 := ⟨m - 1, by omega⟩
  exact (ext_frames showNat pt pa fa hs hb ha).then_cut (extLoadOne_extends pt pa) stopToLoadError fs hpt f hf (k + 1) hm
    (fun _ _ => skipBlank_go (hb _))

end ext

/-! ## PDB (writer + reader)

   A frame is recognised by the reader through its ATOM/HETATM records only: TITLE and COMPND records are collected,
   every other record is passed over, and a record starting with `END` (`END`, `ENDMDL`) ends the frame only after
   an atom record was read.  Theorems are stated for frames in the general form `PdbBlock` (`Lemmas/Traj.lean`):
   passed-over lines, TITLE / COMPND records with continuation numbers as written by `_dump_multiline_str`,
   passed-over lines (`MODEL n`), ATOM records, CONECT records, an `END…` record.  `dump_one` writes the instance
   `pdbBlockOfObj` (`pdbBlockLines_ofObj`), trajectories of other programs the instance `pdbModelBlock`.

   DOMAIN.  A frame WITHOUT ATOM/HETATM record is outside: it is not a molecule for the reader — its TITLE records
   and its END are absorbed by the next frame (`pdb_empty_frame_merged_violated` below: two frames written, one
   read), or, at the end of the file, by the "Molecule could not be read" that ends the loop.  That tolerant end is
   needed for every well-formed file: after the last frame's END (and after the END / MASTER records that follow the
   last ENDMDL) `load_one` finds no atom record, raises LoadError, and `load_many` returns because a frame was read
   (`except LoadError: if nframe == 0: raise; return`). -/

section pdb
variable {α β : Type} (pa : Line → Option α) (fa : α → Line) (pb : Line → Option β) (fb : β → Line)

/-- **prefix-consumption law** for a PDB frame in general form: followed by anything, it is read back as
    `pdbBlockFrame b` (title / compound lines stripped, continuation numbers removed by `line[10:]`) and exactly its
    lines are consumed. -/
theorem pdb_frame_law (ha : ∀ a, pa (pATOM ++ [' ', ' '] ++ fa a) = some a)
    (hb : ∀ b, pb (pCONECT ++ fb b) = some b) (b : PdbBlock α β) (hok : PdbBlockOk b) (rest : List Line) (ln : Int) :
    ∃ ln', pdbLoadOne pa pb ⟨pdbBlockLines fa fb b ++ rest, ln⟩ = .ok (pdbBlockFrame b) ⟨rest, ln'⟩ :=
  pdb_block_law ha hb b hok rest ln

/-- the same for a frame written by `dump_one`, multi-line title and compound included -/
theorem pdb_prefix_law (ha : ∀ a, pa (pATOM ++ [' ', ' '] ++ fa a) = some a)
    (hb : ∀ b, pb (pCONECT ++ fb b) = some b) (o : PdbObj α β) (hd : PdbDom o) (rest : List Line) (ln : Int) :
    ∃ ln', pdbLoadOne pa pb ⟨pdbDumpOne fa fb o ++ rest, ln⟩ = .ok (pdbNorm o) ⟨rest, ln'⟩ :=
  (pdb_obj_frames ha hb).law o hd rest ln

/-- **round trip for PDB frames in general form** (written by `dump_one`, or MODEL/ENDMDL frames of other
    programs), any number of them, followed by records that carry no atom (END, MASTER, blank lines): after the
    last frame `load_one` raises "Molecule could not be read" and — a frame having been read — the loop returns. -/
theorem pdb_blocks_roundtrip (ha : ∀ a, pa (pATOM ++ [' ', ' '] ++ fa a) = some a)
    (hb : ∀ b, pb (pCONECT ++ fb b) = some b) (bs : List (PdbBlock α β)) (hne : bs ≠ [])
    (hd : ∀ b ∈ bs, PdbBlockOk b) (trail : List Line)
    (htr : ∀ l ∈ trail, startsWith pATOM l = false ∧ startsWith pHETATM l = false ∧ startsWith pCONECT l = false) :
    loadMany pdbSkel (pdbLoadOne pa pb) (bs.flatMap (pdbBlockLines fa fb) ++ trail) =
      ⟨bs.map pdbBlockFrame, .done⟩ :=
  pdb_then_no_atoms ((pdb_frames ha hb).iterates trail) bs hne hd htr

/-- **round trip of dump_many / load_many for PDB, any number of frames**, multi-line titles and compounds
    included.  Domain `PdbDom`: at least one atom per frame, fewer than 99 999 title lines and 9 999 compound lines. -/
theorem pdb_roundtrip (ha : ∀ a, pa (pATOM ++ [' ', ' '] ++ fa a) = some a)
    (hb : ∀ b, pb (pCONECT ++ fb b) = some b) (os : List (PdbObj α β)) (hne : os ≠ [])
    (hd : ∀ o ∈ os, PdbDom o) :
    loadMany pdbSkel (pdbLoadOne pa pb) (os.flatMap (pdbDumpOne fa fb)) = ⟨os.map pdbNorm, .done⟩ := by
  have := pdb_then_no_atoms ((pdb_obj_frames ha hb).iterates []) os hne hd (by simp)
  rwa [List.append_nil] at this

/-- **malformed_reached** for PDB: after complete frames, lines on which `load_one` raises anything but its own
    "Molecule could not be read" (an unreadable ATOM/HETATM/CONECT record) end the sequence with LoadError after
    exactly the complete frames. -/
theorem pdb_malformed_reached (ha : ∀ a, pa (pATOM ++ [' ', ' '] ++ fa a) = some a)
    (hb : ∀ b, pb (pCONECT ++ fb b) = some b) (bs : List (PdbBlock α β)) (hd : ∀ b ∈ bs, PdbBlockOk b)
    (bad : List Line) (hbad : ∀ ln, ∃ s, pdbLoadOne pa pb ⟨bad, ln⟩ = .raise .other s) :
    ∃ ln, loadMany pdbSkel (pdbLoadOne pa pb) (bs.flatMap (pdbBlockLines fa fb) ++ bad) =
      ⟨bs.map pdbBlockFrame, .loadError ln⟩ :=
  (pdb_frames ha hb).iterates bad |>.then_bad bs hd (fun ln _ => by
    obtain ⟨s, hst⟩ := hbad ln
    exact ⟨_, .other, s, rfl, hst, Or.inl rfl⟩)

/-- a frame as other programs write trajectories: `MODEL n`, ATOM records, CONECT records, `ENDMDL` -/
def pdbModelBlock (f : Line × List α × List β) : PdbBlock α β :=
  ⟨[], [], [], [f.1], f.2.1, f.2.2, ['M', 'D', 'L']⟩

/-- **MODEL / ENDMDL trajectories** (the harness's renderer; the library writes END-terminated frames only): every
    model is one frame, the `END` after the last `ENDMDL` is absorbed by the tolerant end of the loop. -/
theorem pdb_models_roundtrip (ha : ∀ a, pa (pATOM ++ [' ', ' '] ++ fa a) = some a)
    (hb : ∀ b, pb (pCONECT ++ fb b) = some b) (fs : List (Line × List α × List β)) (hne : fs ≠ [])
    (hd : ∀ f ∈ fs, pdbSkip f.1 = true ∧ f.2.1 ≠ []) :
    loadMany pdbSkel (pdbLoadOne pa pb) (fs.flatMap (fun f => pdbBlockLines fa fb (pdbModelBlock f)) ++ [pEND]) =
      ⟨fs.map (fun f => ⟨[], [], f.2.1, f.2.2, true⟩), .done⟩ := by
  have := pdb_blocks_roundtrip pa fa pb fb ha hb (fs.map pdbModelBlock) (by simpa using hne)
    (by
      intro b hb'
      simp only [List.mem_map] at hb'
      obtain ⟨f, hf, rfl⟩ := hb'
      obtain ⟨h1, h2⟩ := hd f hf
      exact ⟨h2, by simp [pdbModelBlock], by simpa [pdbModelBlock] using h1, by simp [pdbModelBlock],
        by simp [pdbModelBlock]⟩)
    [pEND] (by decide)
  simpa [List.flatMap_map, List.map_map, Function.comp_def, pdbBlockFrame, pdbModelBlock] using this

/-- **truncated_last** for PDB: a written file cut inside its last frame, after at least one of its ATOM records
    and before its END record: the complete frames are yielded, then the partial frame WITH the LoadWarning "The
    END is not found" (`endReached = false`) — never without it. -/
theorem pdb_truncated_last (ha : ∀ a, pa (pATOM ++ [' ', ' '] ++ fa a) = some a)
    (hb : ∀ b, pb (pCONECT ++ fb b) = some b) (os : List (PdbObj α β)) (hd : ∀ o ∈ os, PdbDom o)
    (o : PdbObj α β) (hat : o.atoms ≠ []) (m : Nat) (hlo : (pdbHeader o).length < m)
    (hm : m < (pdbDumpOne fa fb o).length) :
    ∃ g, g.endReached = false ∧
      loadMany pdbSkel (pdbLoadOne pa pb) (os.flatMap (pdbDumpOne fa fb) ++ (pdbDumpOne fa fb o).take m) =
        ⟨os.map pdbNorm ++ [g], .done⟩ := by
  obtain ⟨fuel, ln, hf, he⟩ := (pdb_obj_frames ha hb).iterates ((pdbDumpOne fa fb o).take m) |>.loadMany_eq os hd
  obtain ⟨g, ln', hl, hg⟩ := pdb_cut_partial ha hb o hat m hlo hm ln
  obtain ⟨k, rfl⟩ : ∃ k, fuel = k + 1 := ⟨fuel - 1, by rw [List.length_take] at hf; omega⟩
  have h2 : pdbLoadOne pa pb ⟨[], ln'⟩ = .raise .loadError ⟨[], ln' + 1⟩ := rfl
  exact ⟨g, hg, by rw [he]; simp [runLoop, pdbSkel, runPeek, hl, h2, findHandler, apiFinal]⟩

/-- a written file cut inside the TITLE / COMPND records of its last frame, after at least one complete frame: no
    atom record of the last frame is in the file; the sequence ends normally after the complete frames -/
theorem pdb_cut_in_header (ha : ∀ a, pa (pATOM ++ [' ', ' '] ++ fa a) = some a)
    (hb : ∀ b, pb (pCONECT ++ fb b) = some b) (os : List (PdbObj α β)) (hne : os ≠ []) (hd : ∀ o ∈ os, PdbDom o)
    (o : PdbObj α β) (m : Nat) (hm : m ≤ (pdbHeader o).length) :
    loadMany pdbSkel (pdbLoadOne pa pb) (os.flatMap (pdbDumpOne fa fb) ++ (pdbDumpOne fa fb o).take m) =
      ⟨os.map pdbNorm, .done⟩ :=
  pdb_then_no_atoms ((pdb_obj_frames ha hb).iterates _) os hne hd (pdb_take_header fa fb o m hm)

/-- a file without any ATOM/HETATM record is rejected (the loop before iodata commit a119425 yielded zero frames
    silently: `pdb_old_garbage_violated`) -/
theorem pdb_no_molecule_rejected (ls : List Line)
    (h : ∀ l ∈ ls, startsWith pATOM l = false ∧ startsWith pHETATM l = false ∧ startsWith pCONECT l = false) :
    ∃ ln, loadMany pdbSkel (pdbLoadOne pa pb) ls = ⟨[], .loadError ln⟩ := by
  obtain ⟨ln', hk⟩ := pdbGo_no_atoms pa pb ls 0 ⟨[], [], [], [], false⟩ h
  exact ⟨ln', by simp [loadMany, Lit.ofLines, runLoop, pdbSkel, runPeek, pdbLoadOne, hk, findHandler, apiFinal]⟩

/-- non-vacuity: a two-frame file with a three-line title, a two-line compound, CONECT records (kernel evaluation
    of the same model; `TITLE     2 ` continuation records are read back without their number) -/
example : loadMany pdbSkel (pdbLoadOne (fun l => some l) (fun l => some l))
    ([(⟨['a', '\n', ' ', 'b', '\n', 'c'], some ['x', '\n', 'y'], [['p'], ['q']], [['1']]⟩ : PdbObj Line Line),
      ⟨[], none, [['r']], []⟩].flatMap (pdbDumpOne id id)) =
    ⟨[⟨[['a'], ['b'], ['c']], [['x'], ['y']], [pATOM ++ [' ', ' ', 'p'], pATOM ++ [' ', ' ', 'q']], [pCONECT ++ ['1']], true⟩,
      ⟨[defaultTitle], [], [pATOM ++ [' ', ' ', 'r']], [], true⟩], .done⟩ := by decide +kernel
end pdb

/-! ## Witnesses: the `load_many` loops before iodata commits 634dee3 … 78fd620 (`xyzSkelOld`, `sdfSkelOld`,
    `pdbSkelOld`, `mol2LoadOne false`) violate the property on the inputs below; the loops of the source do not.  All
    by kernel evaluation of the same executable model, every line accepted as a record. -/

section witnesses
def anyLine : Line → Option Line := fun l => some l

/-- xyz, second frame cut after its title: the loop before the repair ends silently after one frame -/
theorem xyz_old_truncated_violated :
    loadMany xyzSkelOld (xyzLoadOne anyLine) [['2'], ['A'], ['H'], ['H'], ['1'], ['B']] =
      ⟨[⟨['A'], [['H'], ['H']]⟩], .done⟩ := by decide +kernel
theorem xyz_truncated_now :
    loadMany xyzSkel (xyzLoadOne anyLine) [['2'], ['A'], ['H'], ['H'], ['1'], ['B']] =
      ⟨[⟨['A'], [['H'], ['H']]⟩], .loadError 7⟩ := by decide +kernel

/-- xyz, a blank line between two complete frames: the loop before the repair drops everything after it -/
theorem xyz_old_blank_between_violated :
    loadMany xyzSkelOld (xyzLoadOne anyLine) [['1'], ['A'], ['H'], [], ['1'], ['B'], ['H']] =
      ⟨[⟨['A'], [['H']]⟩], .done⟩ := by decide +kernel
theorem xyz_blank_between_now :
    loadMany xyzSkel (xyzLoadOne anyLine) [['1'], ['A'], ['H'], [], ['1'], ['B'], ['H']] =
      ⟨[⟨['A'], [['H']]⟩, ⟨['B'], [['H']]⟩], .done⟩ := by decide +kernel

/-- sdf, second molecule cut inside its header -/
theorem sdf_old_truncated_violated :
    loadMany sdfSkelOld (sdfLoadOne anyLine anyLine)
      [['A'], [], [], "  1  0 V2000".toList, ['H'], sdfEnd, ['B'], []] =
      ⟨[⟨['A'], [['H']], []⟩], .done⟩ := by decide +kernel
theorem sdf_truncated_now :
    loadMany sdfSkel (sdfLoadOne anyLine anyLine)
      [['A'], [], [], "  1  0 V2000".toList, ['H'], sdfEnd, ['B'], []] =
      ⟨[⟨['A'], [['H']], []⟩], .loadError 9⟩ := by decide +kernel

/-- pdb, a file without any molecule: the loop before the repair yields nothing and ends normally -/
theorem pdb_old_garbage_violated :
    loadMany pdbSkelOld (pdbLoadOne anyLine anyLine) [['h', 'i'], ['y', 'o']] = ⟨[], .done⟩ := by decide +kernel
theorem pdb_garbage_now :
    loadMany pdbSkel (pdbLoadOne anyLine anyLine) [['h', 'i'], ['y', 'o']] = ⟨[], .loadError 3⟩ := by decide +kernel

/-- mol2, second molecule cut inside its atom records.  Before iodata commit aafd45e mol2.load_many was, like
    pdb.load_many, `while True: yield load_one(lit)` under `except (StopIteration, LoadError): return`, which is
    `pdbSkelOld`; the BOND check of load_one (commit 78fd620) came later, hence `mol2LoadOne false`. -/
theorem mol2_old_truncated_violated :
    loadMany pdbSkelOld (mol2LoadOne false anyLine anyLine)
      [tMOLECULE, ['A'], ['1', ' ', '0'], tATOM, ['x'], tMOLECULE, ['B'], ['2', ' ', '0'], tATOM, ['y']] =
      ⟨[⟨['A'], [['x']], none⟩], .done⟩ := by decide +kernel
theorem mol2_truncated_now :
    loadMany mol2Skel (mol2LoadOne true anyLine anyLine)
      [tMOLECULE, ['A'], ['1', ' ', '0'], tATOM, ['x'], tMOLECULE, ['B'], ['2', ' ', '0'], tATOM, ['y']] =
      ⟨[⟨['A'], [['x']], none⟩], .loadError 11⟩ := by decide +kernel

/-- mol2, the announced BOND section cut off: with the loop of the source (the loop was repaired first) but without
    the check of iodata commit 78fd620, a frame without bonds is yielded silently -/
theorem mol2_old_bond_section_violated :
    loadMany mol2Skel (mol2LoadOne false anyLine anyLine) [tMOLECULE, ['A'], ['1', ' ', '1'], tATOM, ['x']] =
      ⟨[⟨['A'], [['x']], none⟩], .done⟩ := by decide +kernel
theorem mol2_bond_section_now :
    loadMany mol2Skel (mol2LoadOne true anyLine anyLine) [tMOLECULE, ['A'], ['1', ' ', '1'], tATOM, ['x']] =
      ⟨[], .loadError 6⟩ := by decide +kernel

/-- DOMAIN BOUNDARY of the round trip, loops of the source: a title containing a newline is printed as several lines
    and mis-frames the file — one frame written, two different frames read, no error. -/
theorem xyz_multiline_title_misframed_violated :
    loadMany xyzSkel (xyzLoadOne anyLine)
      (xyzDumpOne natDigits id (⟨['T', '\n', 'H', '\n', '0'], [['X']]⟩ : XyzFrame Line)) =
      ⟨[⟨['T'], [['H']]⟩, ⟨['X'], []⟩], .done⟩ := by decide +kernel

/-- DOMAIN BOUNDARY, loops of the source: a PDB frame without atoms has no record the reader recognises as a frame; it
    merges into the next one (two frames written, one read, carrying both titles). -/
theorem pdb_empty_frame_merged_violated :
    loadMany pdbSkel (pdbLoadOne anyLine anyLine)
      ([(⟨['A'], none, [], []⟩ : PdbObj Line Line), ⟨['B'], none, [['x']], []⟩].flatMap (pdbDumpOne id id)) =
      ⟨[⟨[['A'], ['B']], [], [pATOM ++ [' ', ' ', 'x']], [], true⟩], .done⟩ := by decide +kernel
end witnesses

/-! ## MOL2 (writer + reader)

   `mol2.load_one` does not stop at the end of its own records: its section loop reads on until the next
   `@<TRIPOS>MOLECULE` record (pushed back) or the end of the file, so the seven comment lines that `dump_one` prints
   in front of the NEXT frame are consumed by the PREVIOUS frame's `load_one`.  The prefix law therefore holds in
   the form of `mol2_prefix_law`: from a MOLECULE record, with comment lines and then nothing or a further MOLECULE
   record behind the frame, `load_one` returns `mol2Norm f` and leaves exactly the lines from that record on.  An
   iteration of the loop on a written frame still yields the frame and goes on behind it (`Lemmas/Traj.lean`,
   `mol2_iterates`): the comment lines it has passed over do not matter to the next iteration, so the loop
   theorem `Iterates.runLoop_eq` applies to MOL2 as well.  A line is a comment line (`inert`) when it is empty or its
   first word is none of the three record tags; both the scan of `load_many` and the section loop of `load_one`
   pass over such lines. -/

section mol2
variable {α β : Type} (fc : Nat → Nat → Line) (pa : Line → Option α) (fa : α → Line)
  (pb : Line → Option β) (fb : β → Line)

/-- **prefix-consumption law of MOL2** in the form the format allows: from the MOLECULE record of a written frame,
    followed by comment lines and then by nothing or by a further MOLECULE record, `load_one` returns the frame and
    leaves exactly what starts at that further record.  Titles are taken by position: a title that reads
    `@<TRIPOS>MOLECULE`, `@<TRIPOS>ATOM` or is blank is inside the domain; the domain excludes multi-line titles. -/
theorem mol2_prefix_law (hc : Mol2CountsOk fc) (ha : ∀ a, pa (fa a) = some a) (hb : ∀ b, pb (fb b) = some b)
    (f : Mol2Frame α β) (hnl : '\n' ∉ f.title) (sk : List Line) (hsk : ∀ l ∈ sk, inert l = true)
    (tl : List Line) (htl : MolStart tl) (ln : Int) :
    ∃ ln', mol2LoadOne true pa pb ⟨tMOLECULE :: (mol2Body fc fa fb f ++ (sk ++ tl)), ln⟩ =
      .ok (mol2Norm f) ⟨tl, ln'⟩ :=
  mol2_loadOne_frame hc ha hb hnl hsk htl ln

/-- a written frame is seven comment lines, the MOLECULE record line and the body -/
theorem mol2_dump_shape (f : Mol2Frame α β) :
    mol2DumpOne fc fa fb f = mol2Pre ++ tMOLECULE :: mol2Body fc fa fb f := mol2DumpOne_eq fc fa fb f

/-- **round trip, any number of frames**: the file written by dump_many (optionally followed by comment or blank
    lines) reads back as exactly the frames, in order, each as its single-frame file would load. -/
theorem mol2_roundtrip (hc : Mol2CountsOk fc) (ha : ∀ a, pa (fa a) = some a) (hb : ∀ b, pb (fb b) = some b)
    (fs : List (Mol2Frame α β)) (hne : fs ≠ []) (hnl : ∀ f ∈ fs, '\n' ∉ f.title)
    (trail : List Line) (htr : ∀ l ∈ trail, inert l = true) :
    loadMany mol2Skel (mol2LoadOne true pa pb) (fs.flatMap (mol2DumpOne fc fa fb) ++ trail) =
      ⟨fs.map mol2Norm, .done⟩ := by
  have := (mol2_iterates hc ha hb trail [] htr (Or.inl rfl)).then_end fs hne hnl (fun ln => by
    simp [mol2Skel, runPeek, scanMolGo_eof false trail (fun l hl => inert_not_mol l (htr l hl)) ln])
  rwa [List.append_nil] at this

/-- **malformed_reached**: complete frames (also none), comment lines, then a MOLECULE record on which `load_one`
    raises (whatever the exception: unreadable counts, an unparsable atom or bond record, the end of the file inside
    the records, an announced but absent BOND section): exactly the complete frames are yielded, then LoadError —
    the bad frame is neither skipped nor does it end the sequence silently. -/
theorem mol2_malformed_reached (hc : Mol2CountsOk fc) (ha : ∀ a, pa (fa a) = some a) (hb : ∀ b, pb (fb b) = some b)
    (fs : List (Mol2Frame α β)) (hnl : ∀ f ∈ fs, '\n' ∉ f.title)
    (sk : List Line) (hsk : ∀ l ∈ sk, inert l = true) (m : Line) (t : List Line)
    (hm : (words m).head? = some tMOLECULE)
    (hbad : ∀ ln, ∃ e s, mol2LoadOne true pa pb ⟨m :: t, ln⟩ = .raise e s) :
    ∃ ln, loadMany mol2Skel (mol2LoadOne true pa pb) (fs.flatMap (mol2DumpOne fc fa fb) ++ (sk ++ m :: t)) =
      ⟨fs.map mol2Norm, .loadError ln⟩ :=
  (mol2_iterates hc ha hb sk (m :: t) hsk (Or.inr ⟨m, t, rfl, hm⟩)).then_bad fs hnl
    (fun ln first => by
      obtain ⟨e, s, hst⟩ := hbad (ln + sk.length)
      exact ⟨_, e, s, scanMolGo_skip hm hsk, hst, stopToLoadError e⟩)

theorem mol2_dump_take (f : Mol2Frame α β) (m : Nat) (hm : 8 ≤ m) :
    (mol2DumpOne fc fa fb f).take m = mol2Pre ++ tMOLECULE :: (mol2Body fc fa fb f).take (m - 8) := by
  obtain ⟨k, rfl⟩ : ∃ k, m = k + 8 := ⟨m - 8, by omega⟩
  rw [mol2DumpOne_eq, List.take_append, show mol2Pre.length = 7 from rfl, List.take_of_length_le (Nat.le_add_left 7 (k + 1)),
    show k + 8 - 7 = k + 1 from rfl, List.take_succ_cons, Nat.add_sub_cancel]

/-- **truncated_last**: a file cut inside its last frame — after the frame's MOLECULE record line (`8 ≤ m`) and
    before its last line — after any number of complete frames (also none): exactly the complete frames are
    yielded, then LoadError; never a partial frame, never a silent end.  The one cut excluded by `hex` removes only
    the header line of an EMPTY bond section: what is left is byte for byte a complete written file
    (`mol2_cut_empty_bond_section`), to which `mol2_roundtrip` applies. -/
theorem mol2_truncated_last (hc : Mol2CountsOk fc) (ha : ∀ a, pa (fa a) = some a) (hb : ∀ b, pb (fb b) = some b)
    (fs : List (Mol2Frame α β)) (hnl : ∀ f ∈ fs, '\n' ∉ f.title) (f : Mol2Frame α β) (hf : '\n' ∉ f.title)
    (m : Nat) (hm8 : 8 ≤ m) (hm : m < (mol2DumpOne fc fa fb f).length)
    (hex : ¬ (f.bonds = some [] ∧ m + 1 = (mol2DumpOne fc fa fb f).length)) :
    ∃ ln, loadMany mol2Skel (mol2LoadOne true pa pb)
        (fs.flatMap (mol2DumpOne fc fa fb) ++ (mol2DumpOne fc fa fb f).take m) = ⟨fs.map mol2Norm, .loadError ln⟩ := by
  rw [mol2_dump_take fc fa fb f m hm8]
  have hlen := mol2DumpOne_length fc fa fb f
  rw [hlen] at hm hex
  exact mol2_malformed_reached fc pa fa pb fb hc ha hb fs hnl mol2Pre mol2Pre_inert tMOLECULE _
    (by rw [words_tMOLECULE]; rfl)
    (fun ln => mol2_cut_raises hc ha hb f hf (m - 8) (by omega)
      (fun h => hex ⟨h.1, by omega⟩) ln)

/-- a cut inside the seven comment lines in front of the last frame (`m ≤ 7`), after at least one complete frame:
    nothing of the last frame's data is in the file, the sequence ends normally after the complete frames -/
theorem mol2_cut_in_comment_lines (hc : Mol2CountsOk fc) (ha : ∀ a, pa (fa a) = some a)
    (hb : ∀ b, pb (fb b) = some b) (fs : List (Mol2Frame α β)) (hne : fs ≠ []) (hnl : ∀ f ∈ fs, '\n' ∉ f.title)
    (f : Mol2Frame α β) (m : Nat) (hm : m ≤ 7) :
    loadMany mol2Skel (mol2LoadOne true pa pb)
        (fs.flatMap (mol2DumpOne fc fa fb) ++ (mol2DumpOne fc fa fb f).take m) = ⟨fs.map mol2Norm, .done⟩ := by
  apply mol2_roundtrip fc pa fa pb fb hc ha hb fs hne hnl
  intro l hl
  have hz : m - mol2Pre.length = 0 := by simp [mol2Pre]; omega
  rw [mol2DumpOne_eq, List.take_append, hz, List.take_zero, List.append_nil] at hl
  exact mol2Pre_inert l (List.mem_of_mem_take hl)

/-- the cut excluded in `mol2_truncated_last`: without the header line of its empty bond section the frame is the
    written form of the same frame without bond section — a complete file -/
theorem mol2_cut_empty_bond_section (f : Mol2Frame α β) (h : f.bonds = some []) :
    (mol2DumpOne fc fa fb f).take ((mol2DumpOne fc fa fb f).length - 1) =
      mol2DumpOne fc fa fb { f with bonds := none } := by
  have hlen := mol2DumpOne_length fc fa fb f
  have hpos : 1 ≤ (mol2Body fc fa fb f).length := by
    obtain ⟨t, a, b⟩ := f; simp [mol2Body]; omega
  rw [mol2_dump_take fc fa fb f _ (by omega), hlen, mol2DumpOne_eq,
    show (mol2Body fc fa fb f).length + 8 - 1 - 8 = (mol2Body fc fa fb f).length - 1 by omega,
    mol2Body_cut_empty_bonds fc fa fb f h]

/-! concrete sequences by kernel evaluation of the same model (non-vacuity: every hypothesis discharged):
    separator-looking titles, with / without / empty bond sections, and every cut of a two-frame file -/

def cnt2 (na nb : Nat) : Line := natDigits na ++ [' '] ++ natDigits nb

def mA : Mol2Frame Line Line := ⟨tMOLECULE, [['x']], none⟩                      -- title looks like a record
def mB : Mol2Frame Line Line := ⟨[], [['y'], ['z']], some [['b']]⟩              -- no title, one bond
def mC : Mol2Frame Line Line := ⟨[' ', 'E', 'N', 'D', ' '], [['w']], some []⟩  -- padded title, empty bond section

theorem mol2_roundtrip_examples :
    loadMany mol2Skel (mol2LoadOne true anyLine anyLine) ([mA, mB, mC].flatMap (mol2DumpOne cnt2 id id)) =
      ⟨[mA, mB, mC].map mol2Norm, .done⟩ ∧
    loadMany mol2Skel (mol2LoadOne true anyLine anyLine) ([mB].flatMap (mol2DumpOne cnt2 id id)) =
      ⟨[mol2Norm mB], .done⟩ ∧
    loadMany mol2Skel (mol2LoadOne true anyLine anyLine) ([mC, mC, mA, mB].flatMap (mol2DumpOne cnt2 id id)) =
      ⟨[mC, mC, mA, mB].map mol2Norm, .done⟩ := by decide +kernel

/-- every cut of the two-frame file `[mA, mB]`: the complete frames, then either a clean end (cut before the next
    MOLECULE record or after the last record) or LoadError — never a silent short or partial sequence -/
theorem mol2_truncation_examples :
    (List.range 28).all (fun k =>
      let o := loadMany mol2Skel (mol2LoadOne true anyLine anyLine)
        (([mA, mB].flatMap (mol2DumpOne cnt2 id id)).take k)
      if k < 8 then o.frames = [] ∧ o.final ≠ .done            -- no molecule yet: LoadError
      else if k < 12 then o.frames = [] ∧ o.final ≠ .done      -- inside the first molecule
      else if k < 20 then o = ⟨[mol2Norm mA], .done⟩           -- first complete, second not started
      else if k < 27 then o.frames = [mol2Norm mA] ∧ o.final ≠ .done   -- inside the second molecule
      else o = ⟨[mol2Norm mA, mol2Norm mB], .done⟩) = true := by decide +kernel

/-- the `load_many` loop of mol2 never ends silently on an exception of `load_one` -/
theorem mol2_loop_never_swallows {α β : Type} (pa : Line → Option α) (pb : Line → Option β) (fuel : Nat)
    (first : Bool) (s s' s'' : Lit) (e : Exc) (hp : runPeek .scanMolecule first s = .go s')
    (hl : mol2LoadOne true pa pb s' = .raise e s'') :
    ∃ e', runLoop mol2Skel (mol2LoadOne true pa pb) (fuel + 1) first s = ([], .raised e' s'') :=
  runLoop_raise fuel hp hl (stopToLoadError e)

/-- a file without any MOLECULE record is rejected -/
theorem mol2_no_molecule_rejected {α β : Type} (pa : Line → Option α) (pb : Line → Option β) (ls : List Line)
    (h : ∀ l ∈ ls, (words l).head? ≠ some tMOLECULE) :
    ∃ ln, loadMany mol2Skel (mol2LoadOne true pa pb) ls = ⟨[], .loadError ln⟩ := by
  exact ⟨_, by simp [loadMany, Lit.ofLines, runLoop, mol2Skel, runPeek, scanMolGo_eof true ls h, apiFinal]; rfl⟩

/-- the library's counts line `f"{natom:5d} {nbonds:6d} {0:6d} {0:6d}"` at sample values satisfies `Mol2CountsOk` -/
example : words ("    3      2      0      0".toList) = [['3'], ['2'], ['0'], ['0']] ∧
    pyInt ['3'] = some 3 ∧ pyInt ['2'] = some 2 := by decide +kernel
end mol2

theorem fchkSteps_spec (ip np len : Nat) (w : Bool) (t : FchkTag) (ht : t ∈ fchkSteps ip np len w) :
    t.ipoint = ip ∧ t.npoint = np ∧ t.nstep = len ∧ t.istep < len ∧ t.energyIx = 2 * t.istep ∧
      t.geomIx = t.istep := by
  simp only [fchkSteps, List.mem_map, List.mem_range] at ht
  obtain ⟨i, hi, rfl⟩ := ht
  simp [hi]

/-- every yielded frame carries consistent counters: `istep < nstep`, `npoint` is the number of points,
    `ipoint` is the index of its point, the energy is entry `2*istep` and the geometry block `istep` of its point;
    and the frames of a point are exactly `istep = 0 … nstep-1` in order (`fchkSteps`), points in file order. -/
theorem fchk_counters (natom np : Nat) :
    ∀ (pts : List (Nat × Option FchkPoint)) (i : Nat) (t : FchkTag), t ∈ (fchkGo natom np pts i).1 →
      t.npoint = np ∧ i ≤ t.ipoint ∧ t.ipoint < i + pts.length ∧ t.istep < t.nstep ∧
        t.energyIx = 2 * t.istep ∧ t.geomIx = t.istep
  | [], _, t, ht => by simp [fchkGo] at ht
  | (nstep, p) :: pts, i, t, ht => by
    unfold fchkGo at ht
    split at ht
    · simp at ht
    · rename_i len _
      simp only [List.mem_append] at ht
      cases ht with
      | inl h1 =>
        obtain ⟨a, b, c, d, e, f⟩ := fchkSteps_spec _ _ _ _ t h1
        exact ⟨b, by omega, by rw [List.length_cons]; omega, by omega, e, f⟩
      | inr h2 =>
        obtain ⟨a, b, c, d, e, f⟩ := fchk_counters natom np pts (i + 1) t h2
        exact ⟨a, by omega, by rw [List.length_cons]; omega, d, e, f⟩

/-- the frames of a point carry `istep = 0 … len-1`, in this order -/
theorem fchk_point_frames (ip np len : Nat) (w : Bool) :
    (fchkSteps ip np len w).map (·.istep) = List.range len := by
  simp [fchkSteps, Function.comp_def]

example : fchkLoadMany 2 [(2, some ⟨4, 12, 12⟩), (1, some ⟨2, 6, 6⟩)] =
    ([⟨0, 2, 0, 2, 0, 0, false⟩, ⟨0, 2, 1, 2, 2, 1, false⟩, ⟨1, 2, 0, 1, 0, 0, false⟩], 0, true) := by decide +kernel
/-- inconsistent `Number of geometries`: the frames actually present are yielded, nstep is their number, one warning -/
example : fchkLoadMany 1 [(3, some ⟨4, 6, 6⟩)] =
    ([⟨0, 1, 0, 2, 0, 0, true⟩, ⟨0, 1, 1, 2, 2, 1, true⟩], 1, true) := by decide +kernel

/-! ## Non-vacuity of the hypotheses (the concrete printers of the library at sample values) -/

/-- `print(natom)` / `int(line)` -/
example : pyInt (natDigits 0) = some 0 ∧ pyInt (natDigits 7) = some 7 ∧ pyInt (natDigits 50) = some 50 ∧
    pyInt (natDigits 1234) = some 1234 ∧ isBlank (natDigits 0) = false := by decide +kernel

/-- the SDF counts line `f"{natom:3d}{nbond:3d}  0     0  0  0  0  0  0999 V2000"` -/
def sdfCountsLine (na nb : Nat) : Line :=
  rjust 3 (natDigits na) ++ rjust 3 (natDigits nb) ++ "  0     0  0  0  0  0  0999 V2000".toList

example : pyInt ((sdfCountsLine 16 15).take 3) = some 16 ∧ pyInt (((sdfCountsLine 16 15).drop 3).take 3) = some 15 ∧
    lastWordUpper (sdfCountsLine 16 15) = some ['V', '2', '0', '0', '0'] ∧ isBlank (sdfCountsLine 16 15) = false := by
  decide +kernel
example : pyInt ((sdfCountsLine 999 0).take 3) = some 999 ∧ pyInt (((sdfCountsLine 999 0).drop 3).take 3) = some 0 := by
  decide +kernel
/-- outside the column capacity the hypothesis `SdfCountsOk` fails (1000 atoms are read back as 100) -/
example : pyInt ((sdfCountsLine 1000 0).take 3) = some 100 := by decide +kernel

/-- instances of the GRO and extended-XYZ statements by evaluation (titles that look like counts or are blank) -/
example : loadMany groSkel (groLoadOne (fun _ => true) anyLine (fun _ => true))
    ([(⟨['3'], [['a'], ['b']]⟩ : XyzFrame Line), ⟨[], []⟩, ⟨['w', ',', 't', '=', '1'], [['c']]⟩].flatMap
      (groRender natDigits id ['9', ' ', '9', ' ', '9']) ++ [[]]) =
    ⟨[⟨['3'], [['a'], ['b']]⟩, ⟨[], []⟩, ⟨['w'], [['c']]⟩], .done⟩ := by decide +kernel
example : loadMany xyzSkel (extLoadOne (fun _ => true) anyLine)
    ([(⟨['2'], [['a'], ['b']]⟩ : XyzFrame Line), ⟨[' ', 'x', ' '], []⟩].flatMap (extRender natDigits id)) =
    ⟨[⟨['2'], [['a'], ['b']]⟩, ⟨['x'], []⟩], .done⟩ := by decide +kernel
/-- a GRO file cut inside its second frame at every cut point -/
example : (List.range 4).all (fun k =>
    (loadMany groSkel (groLoadOne (fun _ => true) anyLine (fun _ => true))
      (groRender natDigits id ['9'] (⟨['A'], [['a']]⟩ : XyzFrame Line) ++
        (groRender natDigits id ['9'] (⟨['B'], [['b']]⟩ : XyzFrame Line)).take (k + 1) |>.take (4 + k + 1))).final ≠ .done
      || k == 3) = true := by decide +kernel

/-- a complete instance of the XYZ statements with every hypothesis discharged by evaluation -/
example : loadMany xyzSkel (xyzLoadOne anyLine)
    ([(⟨['$', '$', '$', '$'], [['a'], ['b']]⟩ : XyzFrame Line), ⟨[], [['c']]⟩, ⟨['1', '2'], []⟩].flatMap
      (xyzDumpOne natDigits id) ++ [[], [' ']]) =
    ⟨[⟨['$', '$', '$', '$'], [['a'], ['b']]⟩, ⟨defaultTitle, [['c']]⟩, ⟨['1', '2'], []⟩], .done⟩ := by decide +kernel

end Iodata.Props.C13
