/-
C20 — numerical helpers of `iodata/utils.py` return what their documentation says.

Property theorems (helpers in `Iodata/Lemmas/Helpers.lean`) and, for `derive_naturals`, whose eigen-solver is
not modelled, the contract `EighContract` and the function `deriveNaturals` relative to it.  The model
(`Iodata/Model/Helpers.lean`) is tied to `utils.py` by the correspondence streams
`four`, `vol`, `strtobool`, `checkdm`; `Iodata/Gen/Helpers.lean` (index patterns of the
eight assignments, the `STRTOBOOL` dict) is regenerated from the source on every run.
-/
import Iodata.Lemmas.Helpers
import Iodata.Gen.Helpers
import Mathlib.LinearAlgebra.Matrix.NonsingularInverse


namespace Iodata.Props.C20
open Iodata.Helpers

/-- F1. The model's eight assignments are the eight index patterns found in the source
(for ALL indices, not only distinct ones). -/
theorem written_eq_gen (i j k l : Nat) :
    written i j k l = Iodata.Gen.Helpers.fourPatterns.map (applyPat (i, j, k, l)) := by
  rfl

/-- F2. The patterns in the source form a group of eight permutations of the four index slots:
eight distinct permutations of `[0,1,2,3]`, containing the identity, closed under composition. -/
theorem patterns_group :
    let P := Iodata.Gen.Helpers.fourPatterns
    P.length = 8 ∧ P.Nodup ∧ [0, 1, 2, 3] ∈ P ∧
    (∀ p ∈ P, p.length = 4 ∧ p.Nodup ∧ ∀ a ∈ p, a < 4) ∧
    (∀ p ∈ P, ∀ q ∈ P, compPat p q ∈ P) :=
  fourPatterns_group

/-- F2b. `compPat` really is composition of the index shuffles. -/
theorem applyPat_comp (x : Idx) (p q : List Nat)
    (hp : p ∈ Iodata.Gen.Helpers.fourPatterns) (hq : q ∈ Iodata.Gen.Helpers.fourPatterns) :
    applyPat (applyPat x q) p = applyPat x (compPat p q) :=
  have g := fourPatterns_group.2.2.2.1
  applyPat_applyPat x p q (g p hp).1 (g q hq).1 (g p hp).2.2

/-- F3. The written positions are exactly the orbit of `(i,j,k,l)` under the group generated by the
electron swap `<ij|kl> = <ji|lk>` and the two real-orbital swaps `<ij|kl> = <kj|il> = <il|kj>`. -/
theorem written_eq_orbit (i j k l : Nat) (p : Idx) :
    p ∈ written i j k l ↔ Orb (i, j, k, l) p := by
  constructor
  · intro h
    simp only [written, List.mem_cons, List.not_mem_nil, or_false] at h
    rcases h with rfl | rfl | rfl | rfl | rfl | rfl | rfl | rfl
    · exact .base
    · exact .e .base
    · exact .s1 .base
    · exact .s2 .base
    · exact .s2 (.s1 .base)
    · exact .e (.s2 (.s1 .base))
    · exact .s2 (.e .base)
    · exact .s1 (.e .base)
  · intro h
    induction h with
    | base => simp [written]
    | e _ ih => exact written_closed_E _ _ _ _ _ ih
    | s1 _ ih => exact written_closed_1 _ _ _ _ _ ih
    | s2 _ ih => exact written_closed_2 _ _ _ _ _ ih

/-- F4. After the call every position of the orbit holds `value` and *nothing else is touched*
(arrays of any size and element type; `a` is the array before the call). -/
theorem setFour_spec {α : Type} (a : Idx → α) (i j k l : Nat) (v : α) (p : Idx) [Decidable (Orb (i, j, k, l) p)] :
    setFour a i j k l v p = if Orb (i, j, k, l) p then v else a p := by
  unfold setFour
  rw [foldl_update]
  by_cases h : p ∈ written i j k l
  · simp [h, (written_eq_orbit i j k l p).mp h]
  · have hn : ¬ Orb (i, j, k, l) p := fun h' => h ((written_eq_orbit i j k l p).mpr h')
    simp [h, hn]

/-- F4b. The same, with the decidable description of the orbit: the form to rewrite with (F4 needs a
`Decidable (Orb …)` instance, which only `Classical` provides). -/
theorem setFour_spec_mem {α : Type} (a : Idx → α) (i j k l : Nat) (v : α) (p : Idx) :
    setFour a i j k l v p = if p ∈ written i j k l then v else a p := by
  unfold setFour; rw [foldl_update]

/-- F5. All written positions are inside the array when the four indices are. -/
theorem written_in_range (n i j k l : Nat) (hi : i < n) (hj : j < n) (hk : k < n) (hl : l < n) :
    ∀ p ∈ written i j k l, p.1 < n ∧ p.2.1 < n ∧ p.2.2.1 < n ∧ p.2.2.2 < n := by
  intro p h
  simp only [written, List.mem_cons, List.not_mem_nil, or_false] at h
  rcases h with rfl | rfl | rfl | rfl | rfl | rfl | rfl | rfl <;> exact ⟨by assumption, by assumption, by assumption, by assumption⟩

/-- F6. Filling element by element keeps an 8-fold symmetric array 8-fold symmetric. -/
theorem setFour_symmetric {α : Type} (a : Idx → α) (i j k l : Nat) (v : α)
    (hE : ∀ p, a (swapE p) = a p) (h1 : ∀ p, a (swap1 p) = a p) (h2 : ∀ p, a (swap2 p) = a p) :
    let a' := setFour a i j k l v
    (∀ p, a' (swapE p) = a' p) ∧ (∀ p, a' (swap1 p) = a' p) ∧ (∀ p, a' (swap2 p) = a' p) := by
  have key : ∀ (g : Idx → Idx), (∀ p, g (g p) = p) → (∀ p, p ∈ written i j k l → g p ∈ written i j k l) →
      (∀ p, a (g p) = a p) → ∀ p, setFour a i j k l v (g p) = setFour a i j k l v p := by
    intro g hinv hcl hg p
    rw [setFour_spec_mem, setFour_spec_mem]
    by_cases h : p ∈ written i j k l
    · simp [h, hcl p h]
    · have : g p ∉ written i j k l := fun h' => h (by simpa [hinv] using hcl _ h')
      simp [h, this, hg]
  exact ⟨key swapE swapE_invol (written_closed_E i j k l) hE,
         key swap1 swap1_invol (written_closed_1 i j k l) h1,
         key swap2 swap2_invol (written_closed_2 i j k l) h2⟩

/-- non-vacuity: four distinct indices give eight distinct positions, four equal ones a single one -/
example : (written 0 1 2 3).Nodup ∧ writtenFlat 2 1 1 1 1 = [15] ∧ (writtenFlat 4 0 1 2 3).length = 8 := by decide

/-- V1. The returned value is non-negative (three vectors: `abs(det)`; one/two: the norm is the
non-negative root of a non-negative rational). -/
theorem volume_nonneg (vs : List V3) :
    match volume vs with
    | .exact v => 0 ≤ v
    | .root sq => 0 ≤ sq
    | .valueError => vs.length = 0 ∨ 4 ≤ vs.length := by
  match vs with
  | [] => simp [volume]
  | [a] => exact dot_self_nonneg a
  | [a, b] => exact dot_self_nonneg (cross a b)
  | [a, b, c] => simp only [volume, absR_eq_abs]; exact abs_nonneg _
  | _ :: _ :: _ :: _ :: _ => simp [volume]

/-- V2. One definition for the three branches: the square of the returned value is the Gram
determinant `det (A Aᵀ)` of the cell vectors (length², area², volume²). -/
theorem volSq_eq_gram (a b c : V3) :
    volSq [a] = some (gram1 a) ∧ volSq [a, b] = some (gram2 a b) ∧ volSq [a, b, c] = some (gram3 a b c) := by
  refine ⟨rfl, ?_, ?_⟩
  · simp only [volSq, gram2, dot, cross, Option.some.injEq]; ring
  · simp only [volSq, absR_mul_self, gram3, dot, det3, Option.some.injEq]; ring

/-- V2b. `volSq` is the square of what `volume` returns. -/
theorem volSq_volume (vs : List V3) :
    volSq vs = match volume vs with
      | .exact v => some (v * v)
      | .root sq => some sq
      | .valueError => none := by
  match vs with
  | [] => rfl
  | [a] => rfl
  | [a, b] => rfl
  | [a, b, c] => rfl
  | _ :: _ :: _ :: _ :: _ => rfl

/-- V3. Independence of the order of the vectors (every permutation of two / three vectors). -/
theorem volume_perm (a b c : V3) :
    volume [b, a] = volume [a, b] ∧
    volume [a, c, b] = volume [a, b, c] ∧ volume [b, a, c] = volume [a, b, c] ∧
    volume [b, c, a] = volume [a, b, c] ∧ volume [c, a, b] = volume [a, b, c] ∧
    volume [c, b, a] = volume [a, b, c] := by
  have h1 : det3 a c b = - det3 a b c := by simp only [det3]; ring
  have h2 : det3 b a c = - det3 a b c := by simp only [det3]; ring
  have h3 : det3 b c a = det3 a b c := by simp only [det3]; ring
  have h4 : det3 c a b = det3 a b c := by simp only [det3]; ring
  have h5 : det3 c b a = - det3 a b c := by simp only [det3]; ring
  refine ⟨?_, ?_, ?_, ?_, ?_, ?_⟩
  · simp only [volume, dot, cross, Vol.root.injEq]; ring
  all_goals simp only [volume, h1, h2, h3, h4, h5, absR_neg]

/-- V4. Independence of handedness: flipping the direction of any subset of the vectors changes nothing. -/
theorem volume_flip (s1 s2 s3 : Bool) (a b c : V3) :
    volume [flipV s1 a] = volume [a] ∧
    volume [flipV s1 a, flipV s2 b] = volume [a, b] ∧
    volume [flipV s1 a, flipV s2 b, flipV s3 c] = volume [a, b, c] := by
  have hn1 : ∀ a b c, det3 (negV a) b c = - det3 a b c := by intro a b c; simp only [det3, negV]; ring
  have hn2 : ∀ a b c, det3 a (negV b) c = - det3 a b c := by intro a b c; simp only [det3, negV]; ring
  have hn3 : ∀ a b c, det3 a b (negV c) = - det3 a b c := by intro a b c; simp only [det3, negV]; ring
  refine ⟨?_, ?_, ?_⟩
  · cases s1
    · rfl
    · simp only [flipV, volume, dot, negV, Vol.root.injEq, if_true]
      ring
  · cases s1 <;> cases s2 <;>
      simp only [flipV, volume, dot, cross, negV, Vol.root.injEq, if_true, Bool.false_eq_true, if_false] <;> ring
  · cases s1 <;> cases s2 <;> cases s3 <;>
      simp only [flipV, volume, hn1, hn2, hn3, absR_neg, neg_neg, if_true, Bool.false_eq_true, if_false]

/-- V5. The number of vectors decides success: 1, 2 or 3 rows, anything else is a `ValueError`. -/
theorem volume_error_iff (vs : List V3) : volume vs = .valueError ↔ ¬ (1 ≤ vs.length ∧ vs.length ≤ 3) := by
  match vs with
  | [] => simp [volume]
  | [a] => simp [volume]
  | [a, b] => simp [volume]
  | [a, b, c] => simp [volume]
  | _ :: _ :: _ :: _ :: _ => simp [volume]

/-- non-vacuity: a left-handed unit cell, determinant −1, volume 1 -/
example : volume [(1, 0, 0), (0, 0, 1), (0, 1, 0)] = .exact 1 ∧ det3 (1, 0, 0) (0, 0, 1) (0, 1, 0) = -1 := by
  decide +kernel

/-- D1. `check_dm` accepts exactly the occupation lists inside `[-eps, occ_max + eps]`. -/
theorem checkDm_ok_iff (o : Rat) (os : List Rat) (eps occMax : Rat) :
    checkDm o os eps occMax = .ok ↔ ∀ x ∈ o :: os, -eps ≤ x ∧ x ≤ occMax + eps := by
  have h : checkDm o os eps occMax = .ok ↔ ¬ minL o os < -eps ∧ ¬ occMax + eps < maxL o os := by
    unfold checkDm; split_ifs <;> simp [*]
  rw [h, minL_lt_iff, lt_maxL_iff]
  simp only [List.forall_mem_cons, not_or, not_exists, not_and, not_lt, forall_and]

/-- D2. Which error: an occupation below `-eps` is reported first. -/
theorem checkDm_tooSmall_iff (o : Rat) (os : List Rat) (eps occMax : Rat) :
    checkDm o os eps occMax = .tooSmall ↔ ∃ x ∈ o :: os, x < -eps := by
  have h : checkDm o os eps occMax = .tooSmall ↔ minL o os < -eps := by
    unfold checkDm; split_ifs <;> simp [*]
  rw [h, minL_lt_iff]
  simp only [List.mem_cons, exists_eq_or_imp]

example : checkDm 0 [1, (1 : Rat) / 2] (1 / 16) 1 = .ok ∧ checkDm (-(1 : Rat) / 16) [17 / 16] (1 / 16) 1 = .ok
    ∧ checkDm (-(1 : Rat) / 8) [2] (1 / 16) 1 = .tooSmall ∧ checkDm 0 [(9 : Rat) / 8] (1 / 16) 1 = .tooLarge := by
  decide +kernel

/-- the documented vocabulary (distutils' `strtobool`, which the function replaces) -/
def trueWords : List (List Char) := [['y'], ['y','e','s'], ['t'], ['t','r','u','e'], ['o','n'], ['1']]
def falseWords : List (List Char) := [['n'], ['n','o'], ['f'], ['f','a','l','s','e'], ['o','f','f'], ['0']]

/-- S1. With the table found in the source, `strtobool` returns `True` exactly for the (case-folded)
true words, `False` exactly for the false words and raises `ValueError` for every other string. -/
theorem strtobool_spec (s : List Char) :
    let r := strtobool Iodata.Gen.Helpers.strtoboolTable s
    (r = some true ↔ lower s ∈ trueWords) ∧ (r = some false ↔ lower s ∈ falseWords) ∧
    (r = none ↔ lower s ∉ trueWords ++ falseWords) := by
  have hn : (Iodata.Gen.Helpers.strtoboolTable.map Prod.fst).Nodup := by decide +kernel
  have ht : ∀ w, (w, true) ∈ Iodata.Gen.Helpers.strtoboolTable ↔ w ∈ trueWords := by
    intro w
    have a : ∀ e ∈ Iodata.Gen.Helpers.strtoboolTable, e.2 = true → e.1 ∈ trueWords := by decide +kernel
    have b : ∀ x ∈ trueWords, (x, true) ∈ Iodata.Gen.Helpers.strtoboolTable := by decide +kernel
    exact ⟨fun h => a _ h rfl, b w⟩
  have hf : ∀ w, (w, false) ∈ Iodata.Gen.Helpers.strtoboolTable ↔ w ∈ falseWords := by
    intro w
    have a : ∀ e ∈ Iodata.Gen.Helpers.strtoboolTable, e.2 = false → e.1 ∈ falseWords := by decide +kernel
    have b : ∀ x ∈ falseWords, (x, false) ∈ Iodata.Gen.Helpers.strtoboolTable := by decide +kernel
    exact ⟨fun h => a _ h rfl, b w⟩
  have hk : ∀ w, w ∈ Iodata.Gen.Helpers.strtoboolTable.map Prod.fst ↔ w ∈ trueWords ++ falseWords := by
    intro w
    have a : ∀ x ∈ Iodata.Gen.Helpers.strtoboolTable.map Prod.fst, x ∈ trueWords ++ falseWords := by decide +kernel
    have b : ∀ x ∈ trueWords ++ falseWords, x ∈ Iodata.Gen.Helpers.strtoboolTable.map Prod.fst := by decide +kernel
    exact ⟨a w, b w⟩
  refine ⟨?_, ?_, ?_⟩
  · unfold strtobool; rw [lookup_eq_some_iff _ hn, ht]
  · unfold strtobool; rw [lookup_eq_some_iff _ hn, hf]
  · unfold strtobool; rw [lookup_eq_none_iff, hk]

/-- S2. Letter case is irrelevant: strings with the same ASCII case folding get the same answer. -/
theorem strtobool_case (t : List (List Char × Bool)) (s s' : List Char) (h : lower s = lower s') :
    strtobool t s = strtobool t s' := by
  unfold strtobool; rw [h]

/-- S2b. ASCII case folding is idempotent and maps `A–Z` onto `a–z` leaving every other character alone. -/
theorem lowerChar_spec (c : Char) :
    lowerChar (lowerChar c) = lowerChar c ∧
    (c.toNat < 65 ∨ 90 < c.toNat → lowerChar c = c) := by
  constructor
  · by_cases h : 65 ≤ c.toNat ∧ c.toNat ≤ 90
    · have hv : (c.toNat + 32).isValidChar := by left; omega
      have ht : (Char.ofNat (c.toNat + 32)).toNat = c.toNat + 32 := by
        unfold Char.ofNat; rw [dif_pos hv]; rfl
      have hn : ¬ (65 ≤ c.toNat + 32 ∧ c.toNat + 32 ≤ 90) := by omega
      simp only [lowerChar, h, and_self, if_true, ht, hn, if_false]
    · simp only [lowerChar, h, if_false]
  · intro h
    have hn : ¬ (65 ≤ c.toNat ∧ c.toNat ≤ 90) := by omega
    simp only [lowerChar, hn, if_false]

example : strtobool Iodata.Gen.Helpers.strtoboolTable ['Y','e','S'] = some true
    ∧ strtobool Iodata.Gen.Helpers.strtoboolTable ['O','F','F'] = some false
    ∧ strtobool Iodata.Gen.Helpers.strtoboolTable ['y','e','a','h'] = none
    ∧ strtobool Iodata.Gen.Helpers.strtoboolTable [] = none := by decide +kernel

section naturals
open Matrix
variable {n : Type} [Fintype n] [DecidableEq n] {K : Type} [Field K]

/-- contract of `scipy.linalg.eigh(A, B)`: `A V = B V diag(w)` and `Vᵀ B V = 1` -/
def EighContract (A B : Matrix n n K) (w : n → K) (V : Matrix n n K) : Prop :=
  A * V = B * V * diagonal w ∧ Vᵀ * B * V = 1

/-- `derive_naturals` (utils.py:314-345) with the eigen-solver as a parameter:
`sds = overlap.T @ (dm @ overlap); evals, evecs = eigh(sds, overlap); return evecs, evals` -/
def deriveNaturals (eigh : Matrix n n K → Matrix n n K → (n → K) × Matrix n n K)
    (D S : Matrix n n K) : Matrix n n K × (n → K) :=
  let r := eigh (Sᵀ * (D * S)) S
  (r.2, r.1)

/-- N1 (partial: LAPACK is a parameter).  For a symmetric overlap matrix `S`, if the eigen-solver meets
its contract on the pair the function passes to it, the returned orbitals are `S`-orthonormal, the
occupations are the generalized eigenvalues (`(D S) c = n c` for every returned column) and together
they reconstruct the density matrix: `C diag(n) Cᵀ = D`.
Full statement (not proved): the same with `eigh := scipy.linalg.eigh` in binary64 up to rounding. -/
theorem derive_naturals_correct_partial
    (eigh : Matrix n n K → Matrix n n K → (n → K) × Matrix n n K) (D S : Matrix n n K)
    (hS : Sᵀ = S)
    (hc : EighContract (Sᵀ * (D * S)) S (eigh (Sᵀ * (D * S)) S).1 (eigh (Sᵀ * (D * S)) S).2) :
    let C := (deriveNaturals eigh D S).1
    let occ := (deriveNaturals eigh D S).2
    Cᵀ * S * C = 1 ∧ D * S * C = C * diagonal occ ∧ C * diagonal occ * Cᵀ = D := by
  intro C occ
  obtain ⟨h1, h2⟩ := hc
  change Sᵀ * (D * S) * C = S * C * diagonal occ at h1
  change Cᵀ * S * C = 1 at h2
  have h3 : C * (Cᵀ * S) = 1 := mul_eq_one_comm.mp h2
  have h4 : S * (C * Cᵀ) = 1 := by
    apply mul_eq_one_comm.mp; rw [Matrix.mul_assoc]; exact h3
  have h5 : (C * Cᵀ) * S = 1 := mul_eq_one_comm.mp h4
  have h6 : D * S * C = C * diagonal occ := by
    have := congrArg (fun X => (C * Cᵀ) * X) h1
    simp only [hS] at this
    rw [← Matrix.mul_assoc, ← Matrix.mul_assoc, h5, Matrix.one_mul,
        ← Matrix.mul_assoc, ← Matrix.mul_assoc, h5, Matrix.one_mul] at this
    exact this
  refine ⟨h2, h6, ?_⟩
  calc C * diagonal occ * Cᵀ = D * S * C * Cᵀ := by rw [h6]
    _ = D * (S * (C * Cᵀ)) := by simp only [Matrix.mul_assoc]
    _ = D := by rw [h4, Matrix.mul_one]

/-- N2. `check_dm` on top of it: with the solver contract the accepted matrices are exactly those whose
generalized eigenvalues (the occupations returned) lie in `[-eps, occ_max + eps]` — D1 applied to the
occupation list. -/
theorem checkDm_on_naturals (occ : List Rat) (o : Rat) (eps occMax : Rat) :
    checkDm o occ eps occMax ≠ .ok ↔ ∃ x ∈ o :: occ, x < -eps ∨ occMax + eps < x := by
  rw [Ne, checkDm_ok_iff]
  simp only [not_forall, not_and_or, not_le, exists_prop]

end naturals

end Iodata.Props.C20
