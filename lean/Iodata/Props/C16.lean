/-
C16 — results depend only on the arguments, not on call history or interleaving.

Proof part: (1) the effect summary regenerated from /repo's source on every run contains no
store / in-place operation / mutating call rooted at a module-level table; (2) for every history
(any permutation, repetition or thread interleaving of atomic calls) of read-only calls, the
shared state never changes and each call returns exactly what it returns when run alone from the
initial state.  That the summary lists every such site is trusted (cross-checked dynamically on every run).
-/
import Iodata.Model.Effects
import Iodata.Gen.Effects

namespace Iodata.Props.C16
open Iodata.Effects

/-- Reviewed global-rooted sites that are not modifications of a module-level table:
* `shell.kinds[0] = "p"` in `molden._load_low`: `shell` iterates over `obasis.shells`, the list of fresh
  `Shell` objects built by `_load_helper_obasis`; the analysis marks every member of the new
  `MolecularBasis(shells, CONVENTIONS, …)` object as possibly aliasing the module table because one
  constructor argument is that table (only `.conventions` does).
* `np.seterr(...)` in `iodata.__main__.main`: `main` is the entry point of the `iodata-convert` process (it parses
  `sys.argv` and is the whole life of that interpreter), not an API call that later calls could follow; the same
  statement in `convert()` or in any format module is *not* allowed (it would leak into the caller's process). -/
def allowed : List (String × String × String × String) :=
  [ ("iodata.formats.molden", "_load_low", "store-subscript", "shell.kinds[0]"),
    ("iodata.__main__", "main", "process-global:seterr", "np.seterr") ]

/-- 1. No function of the package stores into, mutates in place, or calls a mutating method on a
module-level table (periodic table, bond types, convention dictionaries, registries, constants), a function
or class object, a shared default-argument object; none is memoised (`lru_cache` / `cache`); none sets
interpreter- or library-wide state (numpy error mode and print options, warning filters outside a
`catch_warnings` block, working directory, environment, locale, recursion limit, RNG seeds, `sys.path`). -/
theorem no_global_effects :
    (Iodata.Gen.Effects.sites.filter (fun s => s.root == .glob)).all (fun s => allowed.contains s.key) = true := by
  decide +kernel

/-- 2. History independence: in any history of read-only calls the shared state is unchanged and
every call's result equals its result on the initial state (i.e. run alone in a fresh interpreter). -/
theorem history_independent {σ ρ : Type} (hist : List (Nat × Call σ ρ))
    (hro : ∀ tc ∈ hist, ReadOnly tc.2) (s : σ) :
    runHistory hist s = (s, hist.map (fun tc => (tc.1, (tc.2 s).2))) := by
  induction hist with
  | nil => rfl
  | cons tc rest ih =>
    obtain ⟨t, c⟩ := tc
    have e : (c s).1 = s := hro (t, c) List.mem_cons_self s
    simp only [runHistory, List.map_cons]
    rw [e, ih fun tc hm => hro tc (List.mem_cons_of_mem _ hm)]

/-- 2b. Consequently two histories that contain the same tagged calls in different orders give
each call the same result (order, repetition and interleaving are irrelevant). -/
theorem order_irrelevant {σ ρ : Type} (h1 h2 : List (Nat × Call σ ρ))
    (hro1 : ∀ tc ∈ h1, ReadOnly tc.2) (hro2 : ∀ tc ∈ h2, ReadOnly tc.2) (s : σ)
    (t : Nat) (c : Call σ ρ) (_m1 : (t, c) ∈ h1) (_m2 : (t, c) ∈ h2) :
    (t, (c s).2) ∈ (runHistory h1 s).2 ∧ (t, (c s).2) ∈ (runHistory h2 s).2 := by
  rw [history_independent h1 hro1, history_independent h2 hro2]
  exact ⟨List.mem_map.mpr ⟨(t, c), _m1, rfl⟩, List.mem_map.mpr ⟨(t, c), _m2, rfl⟩⟩

/-- 3. The hypothesis is needed: one writing call changes what a later call returns (the shape of
the `num2sym.update({0: 'Bq'})` defect fixed by iodata commit 929a905: after a WFX dump, element 0 was known). -/
theorem writer_breaks_independence :
    let wfxDump : Call (List Nat) Bool := fun tbl => (0 :: tbl, true)
    let knows0 : Call (List Nat) Bool := fun tbl => (tbl, tbl.contains 0)
    (runHistory [(0, knows0)] []).2 ≠ ((runHistory [(1, wfxDump), (0, knows0)] []).2.filter (·.1 == 0)) := by
  decide

end Iodata.Props.C16
