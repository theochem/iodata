/-
C06 — overlap matrices are the exact L2 inner products of the documented functions.

Property theorems about the model `Iodata/Model/Overlap.lean` (the same definitions the driver runs at
`Rat` in stream `kern` and at doubles-with-error-bound in stream `ovl`), and the three definitions their
statements need: `swapPD` (pair data seen from the other side), `shiftV` (translation), `I.mem` (a real lies
in a rational interval).  Helpers: `Lemmas/Overlap.lean`.
The obligations over the generated Cartesian→pure tables are in `Props/C06Tables.lean`.
-/
import Iodata.Lemmas.Overlap
import Iodata.Lemmas.OverlapIntegral
import Iodata.Model.CartPure


namespace Iodata.Props.C06
open Iodata.Overlap Polynomial

section algebra
variable {K : Type} [Field K]

/-- The 1-D kernel — the code's double loop with its `range(i % 2, n2+1, 2)` parity skip and the
`facts` table — is the full binomial double sum against the Gaussian moments
`mom t m = (m-1)‼ / t^(m/2)` (`m` even), `0` (`m` odd). -/
theorem kernel_double_sum (n1 n2 : Nat) (x1 x2 t : K) :
    kernel n1 n2 x1 x2 t =
      ∑ i ∈ Finset.range (n1 + 1), ∑ j ∈ Finset.range (n2 + 1),
        ((Nat.choose n1 i : Nat) : K) * x1 ^ (n1 - i) * (((Nat.choose n2 j : Nat) : K) * x2 ^ (n2 - j)) * mom t (i + j) :=
  kernel_eq_full n1 n2 x1 x2 t

/-- Exchanging the two functions leaves the 1-D integral unchanged. -/
theorem kernel_symm (n1 n2 : Nat) (x1 x2 t : K) : kernel n1 n2 x1 x2 t = kernel n2 n1 x2 x1 t := by
  rw [kernel_eq_gaussL, kernel_eq_gaussL, mul_comm]

theorem kernel_zero_zero (x1 x2 t : K) : kernel 0 0 x1 x2 t = 1 := by
  rw [kernel_eq_gaussL]
  simpa using (gaussL_X_pow t 0).trans (mom_zero t)

/-- Obara–Saika recurrence in the first index (`t = 2(a+b)`, `x1 = P − A`):
`K(n1+1, n2) = x1·K(n1, n2) + (n1/t)·K(n1−1, n2) + (n2/t)·K(n1, n2−1)`.
Together with `kernel_symm` and `kernel_zero_zero` this determines the kernel for all `n1 n2`
(unconditional algebraic characterisation: these are the recurrences of the Gaussian overlap integrals). -/
theorem kernel_rec (n1 n2 : Nat) (x1 x2 t : K) :
    kernel (n1 + 1) n2 x1 x2 t =
      x1 * kernel n1 n2 x1 x2 t + (n1 : K) / t * kernel (n1 - 1) n2 x1 x2 t
        + (n2 : K) / t * kernel n1 (n2 - 1) x1 x2 t := by
  simp only [kernel_eq_gaussL]
  rw [pow_succ', mul_assoc, add_mul, map_add, gaussL_X_mul, derivative_mul, derivative_X_add_C_pow,
    derivative_X_add_C_pow, mul_assoc, mul_left_comm ((X + C x1) ^ n1), map_add]
  simp only [C_mul', map_smul, smul_eq_mul]
  ring

/-- … and in the second index. -/
theorem kernel_rec_right (n1 n2 : Nat) (x1 x2 t : K) :
    kernel n1 (n2 + 1) x1 x2 t =
      x2 * kernel n1 n2 x1 x2 t + (n2 : K) / t * kernel n1 (n2 - 1) x1 x2 t
        + (n1 : K) / t * kernel (n1 - 1) n2 x1 x2 t := by
  rw [kernel_symm, kernel_rec, kernel_symm n2 n1, kernel_symm (n2 - 1) n1, kernel_symm n2 (n1 - 1)]

/-- At coincident centres (`x1 = x2 = 0`) only the top term survives: `K(n,n) = (2n−1)‼ / t^n`. -/
theorem kernel_coincident (n : Nat) (t : K) : kernel n n 0 0 t = ((facts (2 * n) : Nat) : K) / t ^ n := by
  rw [kernel_eq_gaussL]
  simp only [map_zero, add_zero, ← pow_add, gaussL_X_pow, mom, ← two_mul, Nat.mul_mod_right,
    Nat.mul_div_cancel_left n Nat.two_pos, if_true]

/-- Normalisation, rational part: with `N(α,n)² = (2α/π)^{3/2} · (4α)^{Σn} / Π(2n_d−1)‼` (the square of
`gob_cart_normalization`) and the primitive self-overlap `(π/2α)^{3/2} · Π_d K(n_d, n_d, 0, 0, 4α)`,
the rational parts multiply to one (the `π`-parts are `(2α/π)^{3/2}·(π/(2α))^{3/2} = 1`,
`normalisation_pi_part`). -/
theorem normalisation_rational [CharZero K] (α : K) (hα : α ≠ 0) (nx ny nz : Nat) :
    ((4 * α) ^ (nx + ny + nz) / ((facts (2 * nx) * facts (2 * ny) * facts (2 * nz) : Nat) : K))
      * (kernel nx nx 0 0 (2 * (α + α)) * kernel ny ny 0 0 (2 * (α + α)) * kernel nz nz 0 0 (2 * (α + α))) = 1 := by
  simp only [kernel_coincident]
  have hf : ∀ m, ((facts m : Nat) : K) ≠ 0 := fun m => Nat.cast_ne_zero.mpr (facts_pos m).ne'
  have h4 : (2 * (α + α)) = 4 * α := by ring
  rw [h4]
  have h4α : (4 * α) ≠ 0 := mul_ne_zero (by norm_num) hα
  push_cast
  field_simp [hf]
  ring

/-- non-vacuity: the model evaluates (the value the real code returns for these arguments is -0.42421875) -/
example : kernel 2 3 ((1 : Rat) / 2) (-(3 : Rat) / 4) ((5 : Rat) / 2) = -(543 : Rat) / 1280 := by decide +kernel

end algebra

section assembly
variable {K : Type} [Field K]

/-- the pair data seen from the other side -/
def swapPD (pd : PairData K) : PairData K := ⟨pd.pref, pd.twoAt, pd.d1, pd.d0, pd.sc1, pd.sc0⟩

/-- exchanging the two primitives exchanges the roles in the pair data (same prefactor, same `two_at`) -/
theorem pairData_exchange (ops : Ops K) (r0 r1 : V3 K) (rij2 : K) (p0 p1 : K × List K) :
    pairData ops r1 r0 rij2 p1 p0 = (pairData ops r0 r1 rij2 p0 p1).map swapPD := by
  simp only [pairData, neg_mul, add_comm p1.1 p0.1, mul_comm p1.1 p0.1, add_comm (p1.1 * _) (p0.1 * _)]
  split <;> rfl

theorem pairTerm_exchange (pd : PairData K) (ip iq : Nat) (n0 n1 : Nat × Nat × Nat) :
    pairTerm (swapPD pd) iq ip n1 n0 = pairTerm pd ip iq n0 n1 := by
  unfold pairTerm swapPD
  simp only
  rw [kernel_symm n1.1 n0.1, kernel_symm n1.2.1 n0.2.1, kernel_symm n1.2.2 n0.2.2]
  ring

/-- **Exchange of the two shells**: element `(q, p)` of the Cartesian block computed for `(shell1, shell0)`
equals element `(p, q)` of the block for `(shell0, shell1)` — for any contraction lengths, including the
screening decisions (`exp`, the `1e-15` test and `π` abstract). -/
theorem entry_exchange (ops : Ops K) (sc0 sc1 : List (K × List K)) (r0 r1 : V3 K)
    (ip iq : Nat) (n0 n1 : Nat × Nat × Nat) :
    entryOf (pairList ops sc1 sc0 r1 r0) iq ip n1 n0 = entryOf (pairList ops sc0 sc1 r0 r1) ip iq n0 n1 := by
  unfold entryOf pairList
  simp only [sumL_eq_sum, sum_flatMap, sum_filterMap]
  have hr : (r1.sub r0).dot (r1.sub r0) = (r0.sub r1).dot (r0.sub r1) := by
    simp only [V3.sub, V3.dot]; ring
  rw [hr, list_sum_comm]
  congr 1
  apply List.map_congr_left
  intro p0 _
  congr 1
  apply List.map_congr_left
  intro p1 _
  rw [pairData_exchange]
  cases pairData ops r0 r1 ((r0.sub r1).dot (r0.sub r1)) p0 p1 with
  | none => simp
  | some pd => simp [pairTerm_exchange]

/-- the diagonal Cartesian block of a single basis is symmetric -/
theorem entry_diag_symm (ops : Ops K) (sc : List (K × List K)) (r : V3 K) (ip iq : Nat) (n0 n1 : Nat × Nat × Nat) :
    entryOf (pairList ops sc sc r r) iq ip n1 n0 = entryOf (pairList ops sc sc r r) ip iq n0 n1 :=
  entry_exchange ops sc sc r r ip iq n0 n1

def shiftV (d r : V3 K) : V3 K := ⟨r.x + d.x, r.y + d.y, r.z + d.z⟩

theorem shiftV_sub (d r0 r1 : V3 K) : (shiftV d r0).sub (shiftV d r1) = r0.sub r1 := by
  simp only [shiftV, V3.sub, add_sub_add_right_eq_sub]

/-- **Translation invariance**: only differences of centres enter a primitive pair
(`a0 + a1 ≠ 0`, e.g. positive exponents). -/
theorem pairData_translation (ops : Ops K) (d r0 r1 : V3 K) (rij2 : K) (p0 p1 : K × List K)
    (h : p0.1 + p1.1 ≠ 0) :
    pairData ops (shiftV d r0) (shiftV d r1) rij2 p0 p1 = pairData ops r0 r1 rij2 p0 p1 := by
  simp only [pairData, shiftV, V3.sub, centre_shift _ _ _ _ _ _ h]

theorem pairList_translation (ops : Ops K) (d r0 r1 : V3 K) (sc0 sc1 : List (K × List K))
    (h : ∀ p0 ∈ sc0, ∀ p1 ∈ sc1, p0.1 + p1.1 ≠ 0) :
    pairList ops sc0 sc1 (shiftV d r0) (shiftV d r1) = pairList ops sc0 sc1 r0 r1 := by
  unfold pairList
  simp only [shiftV_sub]
  apply List.flatMap_congr
  intro p0 h0
  apply List.filterMap_congr
  intro p1 h1
  exact pairData_translation ops d r0 r1 _ p0 p1 (h p0 h0 p1 h1)

/-- the shell-level screening test sees only the distance as well -/
theorem shellBlock_translation (ops : Ops K) (tfs : Nat → List (List K)) (s0 s1 : Shell K)
    (sc0 sc1 : List (K × List K)) (d r0 r1 : V3 K) (nb0 nb1 : Nat)
    (h : ∀ p0 ∈ sc0, ∀ p1 ∈ sc1, p0.1 + p1.1 ≠ 0) :
    shellBlock ops tfs s0 s1 sc0 sc1 (shiftV d r0) (shiftV d r1) nb0 nb1
      = shellBlock ops tfs s0 s1 sc0 sc1 r0 r1 nb0 nb1 := by
  unfold shellBlock cartBlock
  simp only [shiftV_sub, pairList_translation ops d r0 r1 sc0 sc1 h]

/-- **Identical bases ⇒ symmetric matrix** (before conventions): elements in different shells are mirrored
by construction (upper triangle = transposed lower blocks); inside one shell the diagonal block must be
symmetric, which `entry_diag_symm` gives for Cartesian shells (`hdiag`). -/
theorem rawEntry_symm (blocks : Nat → Nat → List (List K)) (sizes : List Nat) (r c : Nat)
    (hdiag : ∀ i p q, getM (blocks i i) p q = getM (blocks i i) q p) :
    rawEntry true blocks sizes sizes r c = rawEntry true blocks sizes sizes c r := by
  unfold rawEntry
  rcases locate sizes r with _ | ⟨i0, p⟩ <;> rcases locate sizes c with _ | ⟨i1, q⟩ <;> try rfl
  simp only [if_true]
  rcases Nat.lt_trichotomy i1 i0 with h | rfl | h
  · rw [if_pos h, if_neg (Nat.lt_asymm h)]
  · rw [if_neg (Nat.lt_irrefl _), if_neg (Nat.lt_irrefl _), hdiag]
  · rw [if_neg (Nat.lt_asymm h), if_pos h]

/-- **Exchanging the two bases transposes the matrix** (before conventions), given that the blocks do
(`entry_exchange`). -/
theorem rawEntry_exchange (blocks blocks' : Nat → Nat → List (List K)) (sizes0 sizes1 : List Nat) (r c : Nat)
    (hb : ∀ i0 i1 p q, getM (blocks' i1 i0) q p = getM (blocks i0 i1) p q) :
    rawEntry false blocks' sizes1 sizes0 c r = rawEntry false blocks sizes0 sizes1 r c := by
  unfold rawEntry
  rcases locate sizes0 r with _ | ⟨i0, p⟩ <;> rcases locate sizes1 c with _ | ⟨i1, q⟩ <;> try rfl
  simp [hb]

/-- running offsets: `locate` inverts "sum of the sizes of the earlier shells + local index" -/
theorem locate_offset (pre : List Nat) (n : Nat) (post : List Nat) (p : Nat) (hp : p < n) :
    locate (pre ++ n :: post) (pre.sum + p) = some (pre.length, p) := by
  induction pre with
  | nil => simp [locate, hp]
  | cons a t ih =>
    have h1 : ¬ (a + t.sum + p < a) := by omega
    have h2 : a + t.sum + p - a = t.sum + p := by omega
    simp [locate, h1, h2, ih]

/-- **Conventions act as the C10 signed permutation on rows and columns**:
element `(i, j)` of the result is `sign1[j] · sign0[i] · raw[perm0[i], perm1[j]]`. -/
theorem applyConv_entry (r0 r1 : List (Nat × Int)) (e : Nat → Nat → K) (i j : Nat)
    (hi : i < r0.length) (hj : j < r1.length) :
    getM (applyConv r0 r1 e sgnMul) i j
      = sgnMul (r1[j]).2 (sgnMul (r0[i]).2 (e (r0[i]).1 (r1[j]).1)) := by
  unfold getM applyConv
  simp [List.getD_eq_getElem?_getD, hi, hj]

/-- the value of `sgnMul` is multiplication by the sign -/
theorem sgnMul_eq (s : Int) (x : K) (hs : s = 1 ∨ s = -1) : sgnMul s x = (s : K) * x := by
  rcases hs with h | h <;> subst h <;> simp [sgnMul]

/-- a successful `compute_overlap` is the raw matrix with the two convention conversions
(`convert_conventions(obasis, OVERLAP_CONVENTIONS, reverse=True)`, i.e. `Conv.convBasis … true` of C10)
applied to rows and columns; for a single basis the same conversion is used on both sides -/
theorem computeOverlap_ok_form (ops : Ops K) (tfs : Nat → List (List K)) (oc : Iodata.Conv.Table)
    (b0 : Basis K) (xyz0 : List (V3 K)) (b1 : Option (Basis K)) (xyz1 : Option (List (V3 K)))
    (M : List (List K)) (h : computeOverlap ops tfs oc b0 xyz0 b1 xyz1 = .ok M) :
    ∃ p0 p1 raw,
      Iodata.Conv.convBasis b0.conventions oc (keysOf (segment b0.shells)) true = .ok p0 ∧
      (b1 = none → p1 = p0) ∧
      (∀ b, b1 = some b → Iodata.Conv.convBasis b.conventions oc (keysOf (segment b.shells)) true = .ok p1) ∧
      M = applyConv p0 p1 raw sgnMul := by
  unfold computeOverlap at h
  split at h
  · cases h
  · split at h
    · cases h
    · rename_i identical sh1 conv1 x1 hsec
      obtain ⟨hn, hs⟩ := secondArgs_ok hsec
      split at h
      · split at h
        · cases h
        · obtain ⟨p0, p1, h0, h1, hM⟩ := finish_ok _ _ _ _ h
          refine ⟨p0, p1, _, h0, ?_, ?_, hM⟩
          · intro hb
            rw [hn hb, if_pos rfl, h0] at h1
            exact (Except.ok.inj h1).symm
          · intro b hb
            obtain ⟨hi, hsh, hc⟩ := hs b hb
            subst hi hsh hc
            simpa using h1
      · cases h

/-- **Unsupported input is rejected**: a first basis that is not L2-normalised ⇒ `ValueError`. -/
theorem rejects_nonL2_first (ops : Ops K) (tfs : Nat → List (List K)) (oc : Iodata.Conv.Table)
    (b0 : Basis K) (xyz0 : List (V3 K)) (b1 : Option (Basis K)) (xyz1 : Option (List (V3 K)))
    (h : b0.l2 = false) : computeOverlap ops tfs oc b0 xyz0 b1 xyz1 = .error .valueError := by
  simp [computeOverlap, h]

/-- … a second basis that is not L2-normalised ⇒ `ValueError`. -/
theorem rejects_nonL2_second (ops : Ops K) (tfs : Nat → List (List K)) (oc : Iodata.Conv.Table)
    (b0 b1 : Basis K) (xyz0 : List (V3 K)) (xyz1 : Option (List (V3 K)))
    (h0 : b0.l2 = true) (h : b1.l2 = false) :
    computeOverlap ops tfs oc b0 xyz0 (some b1) xyz1 = .error .valueError := by
  simp [computeOverlap, secondArgs, h0, h]

/-- … a second basis without its geometry ⇒ `TypeError`. -/
theorem rejects_missing_geometry (ops : Ops K) (tfs : Nat → List (List K)) (oc : Iodata.Conv.Table)
    (b0 b1 : Basis K) (xyz0 : List (V3 K)) (h0 : b0.l2 = true) (h1 : b1.l2 = true) :
    computeOverlap ops tfs oc b0 xyz0 (some b1) none = .error .typeError := by
  simp [computeOverlap, secondArgs, h0, h1]

/-- … a second geometry without a second basis ⇒ `TypeError`. -/
theorem rejects_geometry_without_basis (ops : Ops K) (tfs : Nat → List (List K)) (oc : Iodata.Conv.Table)
    (b0 : Basis K) (xyz0 x1 : List (V3 K)) (h0 : b0.l2 = true) :
    computeOverlap ops tfs oc b0 xyz0 none (some x1) = .error .typeError := by
  simp [computeOverlap, secondArgs, h0]

end assembly

section real
open Real MeasureTheory

/-- **The 1-D kernel is the Gaussian overlap integral**: the full statement for a pair of primitive Cartesian
Gaussians in one dimension, centres `A`, `B`, exponents `a`, `b` — with the arguments exactly as
`compute_overlap` passes them (`x1 = rn − r0`, `x2 = rn − r1`, `two_at = 2(a0 + a1)`); the prefactors are
the 1-D parts of `exp(−a0 a1/at · |r0 − r1|²) · (π/at)^{3/2}`. -/
theorem kernel_eq_integral (a b A B : ℝ) (ha : 0 < a) (hb : 0 < b) (n1 n2 : ℕ) :
    ∫ x : ℝ, (x - A) ^ n1 * (x - B) ^ n2 * exp (-a * (x - A) ^ 2 - b * (x - B) ^ 2)
      = exp (-(a * b / (a + b)) * (A - B) ^ 2) * √(π / (a + b))
          * kernel n1 n2 ((a * A + b * B) / (a + b) - A) ((a * A + b * B) / (a + b) - B) (2 * (a + b)) := by
  have hp : 0 < a + b := add_pos ha hb
  set P : ℝ := (a * A + b * B) / (a + b) with hPdef
  rw [← integral_add_right_eq_self (fun x : ℝ => (x - A) ^ n1 * (x - B) ^ n2 * exp (-a * (x - A) ^ 2 - b * (x - B) ^ 2)) P]
  have e : (fun x : ℝ => (x + P - A) ^ n1 * (x + P - B) ^ n2 * exp (-a * (x + P - A) ^ 2 - b * (x + P - B) ^ 2))
      = fun x => exp (-(a * b / (a + b)) * (A - B) ^ 2)
          * (((X + C (P - A)) ^ n1 * (X + C (P - B)) ^ n2 : ℝ[X]).eval x * exp (-(a + b) * x ^ 2)) := by
    funext x
    have hexp : -a * (x + P - A) ^ 2 - b * (x + P - B) ^ 2
        = -(a * b / (a + b)) * (A - B) ^ 2 + -(a + b) * x ^ 2 := by
      rw [hPdef]
      field_simp
      ring
    rw [hexp, exp_add]
    simp only [eval_mul, eval_pow, eval_add, eval_X, eval_C]
    ring
  rw [e, integral_const_mul, (integral_poly_gauss (a + b) hp _).2, kernel_eq_gaussL]
  ring

/-- non-vacuity: the instance `a = b = 1`, `A = B = 0`, `n1 = n2 = 0` -/
theorem kernel_eq_integral_nonvacuous :
    ∫ x : ℝ, (x - 0) ^ 0 * (x - 0) ^ 0 * exp (-1 * (x - 0) ^ 2 - 1 * (x - 0) ^ 2) = √(π / 2) := by
  have h := kernel_eq_integral 1 1 0 0 one_pos one_pos 0 0
  rw [h, Iodata.Props.C06.kernel_zero_zero]
  norm_num

/-- `π`-part of the normalisation: `(2α/π)^{3/2} · (π/(2α))^{3/2} = 1`. -/
theorem normalisation_pi_part (α : ℝ) (hα : 0 < α) :
    (2 * α / π) ^ ((3 : ℝ) / 2) * (π / (2 * α)) ^ ((3 : ℝ) / 2) = 1 := by
  have h1 : 0 ≤ 2 * α / π := by positivity
  have h2 : 0 ≤ π / (2 * α) := by positivity
  rw [← Real.mul_rpow h1 h2]
  have : 2 * α / π * (π / (2 * α)) = 1 := by
    have := pi_pos
    field_simp
  rw [this, Real.one_rpow]

end real

/-! ### soundness of the interval arithmetic used by `Props/C06Tables.lean`

Every real quantity assembled by the checker `Iodata.CartPure.checkTable` from the table entries with
`I.scale`, `I.add`, `I.mulPos` and the enclosures `invSqrt d` of `1/√d` lies in the rational interval the
checker computes, and `I.within` then bounds its distance from the target by the tolerance `10⁻¹²`.
(The composition over the list folds of `checkTable` itself is by construction, not restated here.) -/
section Intervals
open Iodata.CartPure Real

/-- the real number `x` lies in the rational interval `a` -/
def I.mem (x : ℝ) (a : I) : Prop := ((a.1 : ℚ) : ℝ) ≤ x ∧ x ≤ ((a.2 : ℚ) : ℝ)

theorem I.mem_add {x y : ℝ} {a b : I} (hx : I.mem x a) (hy : I.mem y b) : I.mem (x + y) (I.add a b) := by
  unfold I.mem I.add at *
  push_cast
  constructor <;> linarith [hx.1, hx.2, hy.1, hy.2]

theorem I.mem_scale {x : ℝ} {a : I} (q : ℚ) (hx : I.mem x a) : I.mem ((q : ℝ) * x) (I.scale q a) := by
  unfold I.scale I.mem
  split
  · have hq : (q : ℝ) ≤ 0 := by exact_mod_cast le_of_lt ‹q < 0›
    simp only [Rat.cast_mul]
    exact ⟨mul_le_mul_of_nonpos_left hx.2 hq, mul_le_mul_of_nonpos_left hx.1 hq⟩
  · have hq : (0 : ℝ) ≤ q := by exact_mod_cast not_lt.mp ‹¬ q < 0›
    simp only [Rat.cast_mul]
    exact ⟨mul_le_mul_of_nonneg_left hx.1 hq, mul_le_mul_of_nonneg_left hx.2 hq⟩

theorem I.mem_mulPos {x y : ℝ} {a b : I} (ha : 0 ≤ a.1) (hb : 0 ≤ b.1) (hx : I.mem x a) (hy : I.mem y b) :
    I.mem (x * y) (I.mulPos a b) := by
  unfold I.mem I.mulPos at *
  have ha' : (0 : ℝ) ≤ ((a.1 : ℚ) : ℝ) := by exact_mod_cast ha
  have hb' : (0 : ℝ) ≤ ((b.1 : ℚ) : ℝ) := by exact_mod_cast hb
  push_cast
  constructor
  · exact mul_le_mul hx.1 hy.1 hb' (le_trans ha' hx.1)
  · exact mul_le_mul hx.2 hy.2 (le_trans hb' hy.1) (le_trans (le_trans ha' hx.1) hx.2)

theorem I.within_sound {x : ℝ} {a : I} {c tol : ℚ} (h : I.within a c tol = true) (hx : I.mem x a) :
    |x - (c : ℝ)| ≤ (tol : ℝ) := by
  unfold I.within at h
  simp only [Bool.and_eq_true, decide_eq_true_eq] at h
  have h1 : ((c - tol : ℚ) : ℝ) ≤ ((a.1 : ℚ) : ℝ) := by exact_mod_cast h.1
  have h2 : ((a.2 : ℚ) : ℝ) ≤ ((c + tol : ℚ) : ℝ) := by exact_mod_cast h.2
  push_cast at h1 h2
  rw [abs_le]
  constructor <;> linarith [hx.1, hx.2]

/-- the enclosure of `1/√d` is verified by squaring inside the checker: if the flag is set the true value is inside -/
theorem invSqrt_sound (d : ℕ) (h : (invSqrt d).2 = true) : I.mem (1 / √(d : ℝ)) (invSqrt d).1 := by
  simp only [invSqrt, Bool.and_eq_true, decide_eq_true_eq] at h
  obtain ⟨⟨h1, h2⟩, h3⟩ := h
  have hd : (0 : ℝ) < d := by exact_mod_cast h3
  -- `lo ≤ √(1/d) ≤ hi` from `lo²·d ≤ 1 ≤ hi²·d`
  rw [one_div, ← Real.sqrt_inv]
  refine ⟨Real.le_sqrt_of_sq_le ?_, Real.sqrt_le_iff.mpr ⟨?_, ?_⟩⟩
  · rw [sq, ← one_div, le_div_iff₀ hd]; exact_mod_cast h1
  · simp only [invSqrt]; positivity
  · rw [sq, ← one_div, div_le_iff₀ hd]; exact_mod_cast h2

end Intervals

end Iodata.Props.C06
