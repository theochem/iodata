/-
C02 — save-then-reload returns the same data (byte-level formats).

Property theorems only.  For each format: `load (dump o) = ok (norm o)` for *every* object of the
explicit domain `Dom` and *every* layout satisfying the stated side conditions; the layout actually
used by iodata (`Gen.Layouts`, regenerated from the source on every run) is shown to satisfy them and
to have the shape the model assumes, by computation.  The models are the ones the driver executes in
the `fmt dump` / `fmt load` correspondence streams.
-/
import Iodata.Lemmas.Fmt.Xyz
import Iodata.Lemmas.Fmt.Sdf
import Iodata.Lemmas.Fmt.Pdb
import Iodata.Lemmas.Fmt.PdbConect
import Iodata.Lemmas.Fmt.Fchk
import Iodata.Lemmas.Fmt.Cube
import Iodata.Lemmas.Fmt.CubeLoop
import Iodata.Lemmas.Fmt.Mol2
import Iodata.Lemmas.Fmt.Fcidump
import Iodata.Lemmas.Fmt.Poscar
import Iodata.Lemmas.Fmt.Periodic
import Iodata.Lemmas.StrLit

namespace Iodata.Props.C02
open Iodata.Chars Iodata.Decimal Iodata.Fmt Iodata.Gen.Layouts

/-- XYZ: reading back the written file gives the object (with the default title when it had none),
for every atom list, every element of the table, every coordinate value of any magnitude and sign
(including `-0`), and every list of user-defined fixed-point columns. -/
theorem xyz_load_dump (T : Tables) (L : Xyz.Layout) (hL : Xyz.LayoutOK L) (o : Xyz.Obj) (h : Xyz.Dom T L o) :
    Xyz.load T L (Xyz.dump T L o) = .ok (Xyz.norm L o) :=
  Xyz.load_dump T L hL o h

/-- XYZ: objects of the domain are written, not refused. -/
theorem xyz_written_not_refused (T : Tables) (L : Xyz.Layout) (o : Xyz.Obj) (h : Xyz.Dom T L o) :
    Xyz.dumpE T L o = .ok (Xyz.dump T L o) := by
  rw [Xyz.dumpE, if_pos]
  refine List.all_eq_true.mpr fun a ha => ?_
  obtain ⟨s, hs, _⟩ := Xyz.okZ_spec (h.2 a ha).1
  simp [hs, (h.2 a ha).2]

/-- XYZ: the layout in the source satisfies the side conditions. -/
theorem xyz_layout_ok : Xyz.LayoutOK xyzL := by decide +kernel

/-- XYZ: every element of `num2sym` is written as a blank-free, non-numeric symbol that
`sym2num[word.title()]` maps back to the same atomic number; the table covers Z = 1..118. -/
theorem xyz_elements_ok :
    tables.num2sym.map (·.1) = List.range' 1 118 ∧ ∀ z ∈ List.range' 1 118, Xyz.okZ tables z = true :=
  ⟨tables_elements.1, fun _ hz => let ⟨_, h⟩ := tables_row hz; Xyz.okZ_of_row h⟩

/-- XYZ: the writer in the source has exactly the fields the model prints (names of the formatted
expressions included: `value / angstrom`, `num2sym[atnum]`), with three equal coordinate columns. -/
theorem xyz_writer_shape :
    xyz_writes = Xyz.expectedWrites xyzL ∧ (∃ c, xyzL.cols = List.replicate 3 c ∧ c.negate = false) := by
  refine ⟨?_, ⟨15, 10, false⟩, rfl, rfl⟩
  simp only [xyz_writes, xyzL, Xyz.expectedWrites, toList_lit (by with_reducible rfl), List.cons_append, List.nil_append]

/-- non-vacuity: a domain object at the column boundary (`-999.9999999999` fills the 15 columns,
`99999.9999999999` overflows them, `-0.0000000000`), with the default title. -/
example : Xyz.Dom tables xyzL ⟨[], [⟨1, [⟨true, 9999999999999⟩, ⟨false, 999999999999999⟩, ⟨true, 0⟩]⟩,
    ⟨118, [⟨false, 0⟩, ⟨false, 1⟩, ⟨true, 1⟩]⟩]⟩ := by decide +kernel

/-- SDF: every object the V2000 columns can hold (counts, atom numbers and bond types that fit three
columns — up to 999 atoms and bonds —, coordinates that fit `10.4f`: −9999.9999 … 99999.9999 Å, fields may
touch) is read back from the written file as itself (default title filled in). -/
theorem sdf_load_dump (T : Tables) (L : Sdf.Layout) (hL : Sdf.LayoutOK L) (o : Sdf.Obj) (h : Sdf.Dom T L o) :
    Sdf.load T L (Sdf.dump T L o) = .ok (Sdf.norm L o) :=
  Sdf.load_dump T L hL o h

/-- SDF: objects with known elements are written, not refused. -/
theorem sdf_written_not_refused (T : Tables) (L : Sdf.Layout) (o : Sdf.Obj)
    (h : ∀ a ∈ o.atoms, Sdf.okZ T L a.zn = true) : Sdf.dumpE T L o = .ok (Sdf.dump T L o) := by
  rw [Sdf.dumpE, if_pos]
  refine List.all_eq_true.mpr fun a ha => ?_
  obtain ⟨s, hs, _⟩ := Sdf.okZ_spec (h a ha)
  simp [hs]

/-- SDF: the layout in the source satisfies the side conditions — in particular the writer's columns
are the reader's slices — and all elements are usable. -/
theorem sdf_layout_ok : Sdf.LayoutOK sdfL ∧ ∀ z ∈ List.range' 1 118, Sdf.okZ tables sdfL z = true :=
  ⟨by decide +kernel, fun _ hz => let ⟨_, h⟩ := tables_row hz; Sdf.okZ_of_row h (by decide)⟩

/-- SDF: the writer and the reader in the source have exactly the fields / slices the model uses. -/
theorem sdf_source_shape : sdf_writes = Sdf.expectedWrites sdfL ∧ sdf_slices = Sdf.expectedSlices sdfL := by
  simp only [sdf_writes, sdf_slices, sdfL, Sdf.expectedWrites, Sdf.expectedSlices, toList_lit (by with_reducible rfl),
    List.cons_append, List.nil_append, and_self]

def sdfC100 : List Sdf.Atom := List.replicate 100 ⟨⟨false, 0⟩, ⟨false, 0⟩, ⟨false, 0⟩, 6⟩

/-- non-vacuity at the boundaries (touching fields, on which a reader that splits on blanks fails): bond between atoms 101 and 110 written
`101110  1`, x = 99999.9999, y = −9999.9999 touching, 100 bonds (counts line `101100`). -/
example : Sdf.Dom tables sdfL ⟨[], sdfC100 ++ [⟨⟨false, 999999999⟩, ⟨true, 99999999⟩, ⟨true, 0⟩, 118⟩],
    ⟨100, 98, 8⟩ :: List.replicate 99 ⟨99, 100, 1⟩⟩ := by decide +kernel

example : Sdf.load tables sdfL (Sdf.dump tables sdfL ⟨['t'], sdfC100 ++ sdfC100, [⟨100, 109, 1⟩]⟩)
    = .ok ⟨['t'], sdfC100 ++ sdfC100, [⟨100, 109, 1⟩]⟩ := by decide +kernel

/-! ## PDB

`norm` keeps title and atoms and turns the bond list into `normBonds` (each unordered pair once, as
`(a, b)` with `a < b`, ordered by first atom then by the order in which the writer met the partner; a bond
listed twice stays listed twice; PDB stores no bond type). -/

/-- PDB: the ATOM record written for any atom whose fields fit their columns (name ≤ 4, residue ≤ 3,
resSeq ≤ 4 characters incl. sign, x/y/z in `8.3f`, occupancy/B in `6.2f`, serial ≤ 5 digits) is cut by
the reader's slices into exactly that atom — for every layout whose writer columns equal the reader slices. -/
theorem pdb_atom_record (T : Tables) (L : Pdb.Layout) (hL : Pdb.LayoutOK L) (serial : Nat) (a : Pdb.Atom)
    (hser : (natToDec serial).length ≤ L.serialW) (ha : Pdb.AtomOK T L a) :
    Pdb.parseAtom T L (Pdb.dumpAtom T L serial a) = .ok a :=
  Pdb.parseAtom_dumpAtom T L hL serial a hser ha

/-- PDB: the written file — TITLE and COMPND records of any number of lines (continuation numbers 2, 3, …, 10, … right-
justified up to column ten and one blank), ATOM records, CONECT records (every bond in both directions, at most four
partners per record, an extra record without partners when the count is a multiple of four), END — is read back
as the object with its bonds de-duplicated, for any number of atoms the serial columns hold and any list of
bonds between existing atoms (repeated bonds, any order, any number of partners per atom); multi-line titles and
compounds come back line by line. -/
theorem pdb_load_dump (T : Tables) (L : Pdb.Layout) (hL : Pdb.LayoutOK L) (hC : Pdb.ConectOK L) (o : Pdb.Obj)
    (h : Pdb.DomB T L o) : Pdb.load T L (Pdb.dump T L o) = .ok (Pdb.norm L o) :=
  Pdb.load_dump_bonds T L hL hC o h

/-- PDB: one CONECT record with at most four partners is read as the bonds to the partners with a larger index. -/
theorem pdb_conect_record (L : Pdb.Layout) (hC : Pdb.ConectOK L) (a : Nat) (others : List Nat)
    (ha : (natToDec (a + 1)).length ≤ L.conW) (hlen : others.length ≤ 4)
    (hfit : ∀ b ∈ others, (natToDec (b + 1)).length ≤ L.conW) :
    Pdb.parseConect L (Pdb.conectLine L a others) = .ok ((others.filter (a < ·)).map fun b => (a, b)) :=
  Pdb.parseConect_conectLine L hC a others ha hlen hfit

/-- PDB: objects of the domain are written, not refused. -/
theorem pdb_written_not_refused (T : Tables) (L : Pdb.Layout) (o : Pdb.Obj) (h : Pdb.DomB T L o) :
    Pdb.dumpE T L o = .ok (Pdb.dump T L o) := by
  unfold Pdb.dumpE
  have h1 : (o.atoms.all fun a => (T.sym? a.zn).isSome) = true := by
    rw [List.all_eq_true]; intro a ha
    obtain ⟨s, hs, _⟩ := Pdb.okZ_spec (h.2.2.2.2.2.1 a ha).1
    simp [hs]
  have h2 : (o.bonds.all fun b => decide (b.1 < o.atoms.length) && decide (b.2 < o.atoms.length)) = true := by
    rw [List.all_eq_true]; intro b hb
    simp [h.2.2.2.2.2.2.2.2 b hb]
  simp [h1, h2]

/-- PDB: the layout in the source satisfies the side conditions: the writer's ATOM columns are the
reader's slices; every element symbol fits the two element columns and is mapped back. -/
theorem pdb_layout_ok : Pdb.LayoutOK pdbL ∧ Pdb.ConectOK pdbL ∧ ∀ z ∈ List.range' 1 118, Pdb.okZ tables z = true :=
  ⟨by decide +kernel, by decide +kernel, fun _ hz => let ⟨_, h⟩ := tables_row hz; Pdb.okZ_of_row h⟩

/-- PDB: the writer and the reader in the source have the fields / slices the model uses. -/
theorem pdb_source_shape :
    Pdb.expectedAtomWrite pdbL ∈ pdb_writes ∧ Pdb.expectedConectWrite pdbL ∈ pdb_writes ∧
    pdb_slices = Pdb.expectedSlices pdbL := by
  unfold Pdb.expectedAtomWrite Pdb.expectedConectWrite pdb_writes
  simp only [pdb_slices, pdbL, Pdb.expectedSlices, toList_lit (by with_reducible rfl)]
  exact ⟨.tail _ (.head _), .tail _ (.tail _ (.head _)), rfl⟩

/-- PDB: the CONECT writer fills the columns the reader cuts (`CONECT`, then five 5-column fields). -/
theorem pdb_conect_writer_columns_eq_reader_slices :
    Pdb.conectWriterColumns pdbL = Pdb.conectColumns pdbL := by decide +kernel

/-- PDB (counter-example before iodata commit ce4a9da): the record `CONECT1000010001` written for the bond
between atoms 10000 and 10001 is read back as that bond; a full record of four partners as well. -/
theorem pdb_conect_examples :
    Pdb.conectLine pdbL 9999 [10000] = "CONECT1000010001\n".toList ∧
    Pdb.parseConect pdbL (Pdb.conectLine pdbL 9999 [10000]) = .ok [(9999, 10000)] ∧
    Pdb.parseConect pdbL (Pdb.conectLine pdbL 5 [99998, 0, 6, 12344]) = .ok [(5, 99998), (5, 6), (5, 12344)] := by
  simp only [toList_lit (by with_reducible rfl)]
  decide +kernel

/-- non-vacuity at the column boundaries: x = −999.999, y = 9999.999, resSeq −999 and 9999, B = 999.99;
bonds in both orders, a repeated bond, an atom with exactly four partners (extra empty record) and one with five. -/
example : Pdb.DomB tables pdbL ⟨[], [⟨17, ['C','l','1','2'], ['A','B','C'], 'A', -999, ⟨true, 999999⟩, ⟨false, 9999999⟩,
    ⟨true, 0⟩, ⟨false, 100⟩, ⟨false, 99999⟩⟩, ⟨1, [], [], ' ', 9999, ⟨false, 0⟩, ⟨false, 1⟩, ⟨true, 1⟩, ⟨true, 999⟩, ⟨false, 0⟩⟩],
    [(0, 1), (1, 0), (0, 1), (0, 1), (1, 0)], some ['a','\n','b','\n','\n','c']⟩ := by
  decide +kernel

/-- non-vacuity of the chunking: four partners give a full record plus an empty one, five give 4 + 1. -/
example : Pdb.dumpConect pdbL 6 [(0, 1), (0, 2), (0, 3), (0, 4)] =
    ["CONECT    1    2    3    4    5\n".toList, "CONECT    1\n".toList, "CONECT    2    1\n".toList,
     "CONECT    3    1\n".toList, "CONECT    4    1\n".toList, "CONECT    5    1\n".toList] ∧
    (Pdb.dumpConect pdbL 6 [(0, 1), (0, 2), (0, 3), (0, 4), (5, 0)]).take 2 =
    ["CONECT    1    2    3    4    5\n".toList, "CONECT    1    6\n".toList] := by
  simp only [toList_lit (by with_reducible rfl)]
  decide +kernel

/-- non-vacuity of the continuation records: a twelve-line title is written with the numbers 2 … 12 ending in column ten. -/
example : (Pdb.multiLines pdbL Pdb.kTitle "a\nb\nc\nd\ne\nf\ng\nh\ni\nj\nk\nl".toList).drop 8 =
    ["TITLE    9 i\n".toList, "TITLE   10 j\n".toList, "TITLE   11 k\n".toList, "TITLE   12 l\n".toList] := by
  simp only [toList_lit (by with_reducible rfl)]
  decide +kernel

/-! ## Scientific notation (shared by FCHK, Cube, FCIDUMP) -/

/-- `float(pad + f"{x: w.dE}" + pad')` is the printed mantissa/exponent pair: every sign (`-0.0` included), every
mantissa of `d+1` digits, every exponent (two or more digits), with or without the `' '` flag, `E` or `e`. -/
theorem sci_roundtrip (sp up : Bool) (w d : Nat) (x : Sci) (hd : 0 < d) (hm : x.man < 10 ^ (d + 1)) (q : Str) (hq : AllWs q) :
    pySci d (fmtSci sp up w d x ++ q) = some x :=
  pySci_fmtSci sp up w d x hd hm q hq

/-! ## FCHK, field layer -/

/-- FCHK: a file made of the two header lines and any list of fields (integer/real scalars, integer/real arrays of any
length ≥ 0 — six integers or five reals per line, ragged last line —, distinct labels of at most 40 characters) is read
back by `_load_fchk_low` + the header part of `load_one` as written: same labels, same values in the same order, arrays
of length zero left out (the writer skips them), title defaulted, level of theory and basis name lower-cased, run type
mapped through the writer's and the reader's tables. -/
theorem fchk_load_dump (L : Fchk.Layout) (hL : Fchk.LayoutOK L) (R : Fchk.RunTypes) (hR : Fchk.RunTypesOK L R)
    (keep : Str → Bool) (o : Fchk.Obj) (h : Fchk.Dom L o) (hk : ∀ f ∈ o.fields, keep f.1 = true) :
    Fchk.load L.reader R keep (Fchk.dump L R o) = .ok (Fchk.norm L R o) :=
  Fchk.load_dump L hL R hR keep o h hk

/-- FCHK: array lines for ALL sizes: the lines hold the elements in order, none is empty, none has more than `k`
elements, and their lengths are `k, …, k, (n-1) mod k + 1`. -/
theorem fchk_chunks (α : Type) (k : Nat) (hk : 0 < k) (l : List α) (hne : l ≠ []) :
    (Fchk.chunks k l).flatten = l ∧ (∀ ch ∈ Fchk.chunks k l, ch ≠ [] ∧ ch.length ≤ k) ∧
    (Fchk.chunks k l).map List.length = List.replicate ((l.length - 1) / k) k ++ [(l.length - 1) % k + 1] :=
  ⟨(Fchk.chunks_spec k hk l hne).1, (Fchk.chunks_spec k hk l hne).2, Fchk.chunks_lengths k hk l hne⟩

/-- FCHK: `arr[np.tril_indices(n)]` applied to `_triangle_to_dense(t)` gives `t` back, for every matrix size `n`
(Hessian, polarizability, density matrices); the dense matrix is symmetric. -/
theorem fchk_tril_dense (α : Type) (d : α) (n : Nat) (t : List α) (h : t.length = n * (n + 1) / 2) :
    Fchk.tril (Fchk.dense d n t) = t ∧
    ∀ i j, ((Fchk.dense d n t).getD i []).getD j d = ((Fchk.dense d n t).getD j []).getD i d :=
  ⟨Fchk.tril_dense d n t h, Fchk.dense_symm d n t⟩

/-- FCHK: the quadrupole index vector of the reader undoes the one of the writer (both extracted from the source):
`q[W][R] = q` for every six-component moment. -/
theorem fchk_quadrupole_inverse (α : Type) (d a b c e f g : α) :
    Fchk.pick d fchkQuadR (Fchk.pick d fchkQuadW [a, b, c, e, f, g]) = [a, b, c, e, f, g] := by
  rfl

/-- FCHK: the writer's order is XX, YY, ZZ, XY, XZ, YZ of an alphabetically stored quadrupole (xx, xy, xz, yy, yz, zz). -/
theorem fchk_quadrupole_order : fchkQuadW = [0, 3, 5, 1, 2, 4] ∧ fchkQuadW.length = 6 ∧ fchkQuadR.length = 6 := by decide

/-- FCHK: the layout and the run-type tables in the source satisfy the side conditions: the label is cut where the writer
ends it, every command the writer emits is one word that the reader maps back (`opt` → `FOpt` → `opt`, …). -/
theorem fchk_layout_ok : Fchk.LayoutOK fchkL ∧ Fchk.RunTypesOK fchkL fchkRunTypes ∧
    ∀ e ∈ fchkRunTypes.writer, lookupK fchkRunTypes.reader e.2 = some e.1 := by decide +kernel

/-- FCHK: the four field writers and the field reader in the source have the shape the model assumes. -/
theorem fchk_source_shape :
    fchk_writes.filter (fun w => w.1 != "dump_one".toList) = Fchk.expectedWrites fchkL ∧
    fchk_slices = [⟨"_load_fchk_field".toList, "label".toList, 0, some fchkL.cut, false⟩,
                   ⟨"_load_fchk_field".toList, "words".toList, fchkL.cut, none, false⟩] := by
  simp only [fchk_writes, fchk_slices, fchkL, Fchk.expectedWrites, toList_lit (by with_reducible rfl)]
  decide +kernel

/-- non-vacuity: scalars, arrays of 5, 6, 7 and 0 elements, a negative number with a two-digit exponent in every column,
`opt` as run type. -/
example : Fchk.Dom fchkL ⟨['t'], some ['o','p','t'], some ['h','f'], none,
    [(['N'], .int (-12)), (['E',' ','x'], .real ⟨true, 123456789, -99⟩),
     (['A'], .ints [1, -2, 3, 4, 5, 6, 7]), (['B'], .reals (List.replicate 6 ⟨true, 999999999, 99⟩)), (['C'], .reals []),
     (['D'], .ints [0, 0, 0, 0, 0])]⟩ := by decide +kernel

example : Fchk.load fchkL.reader fchkRunTypes (fun _ => true) (Fchk.dump fchkL fchkRunTypes
      ⟨[], some ['o','p','t'], some ['H','f'], none, [(['A'], .ints [1, -2, 3, 4, 5, 6, 7]), (['C'], .reals [])]⟩)
    = .ok ⟨fchkL.defaultTitle, some ['o','p','t'], ['h','f'], some ['n','a'], [(['A'], .ints [1, -2, 3, 4, 5, 6, 7])]⟩ := by
  decide +kernel

/-- Cube: the written file — title, comment line, origin, three axis lines, one line per atom, then the grid values six per
line with a new line at the start of every row of `shape[2]` values — is read back as the object: every shape (also
`shape[2] % 6 ≠ 0`, also empty grids), any number of atoms, header numbers of any magnitude and sign, every value.
`norm` fills in the default title and replaces a core charge of exactly zero by the atomic number (the reader's heuristic;
`cube_ghost_atom_violated` below). -/
theorem cube_load_dump (L : Cube.Layout) (hL : Cube.LayoutOK L) (o : Cube.Obj) (h : Cube.Dom L o) :
    Cube.load L (Cube.dump L o) = .ok (Cube.norm L o) :=
  Cube.load_dump L hL o h

/-- Cube: the data lines hold the values in order and no line is empty, for every row length (ragged rows included). -/
theorem cube_data_lines (L : Cube.Layout) (hL : Cube.LayoutOK L) (bs : Nat) (hbs : 0 < bs) (data : List Sci) :
    (Cube.dataChunks L bs data).flatten = data ∧ ∀ ch ∈ Cube.dataChunks L bs data, ch ≠ [] :=
  Cube.dataChunks_spec L hL bs hbs data

/-- Cube: away from zero core charges the round trip changes nothing but an empty title. -/
theorem cube_norm_identity (L : Cube.Layout) (o : Cube.Obj) (hq : ∀ a ∈ o.atoms, a.q.mag ≠ 0) (ht : o.title ≠ []) :
    Cube.norm L o = o := by
  have h1 : o.atoms.map (Cube.normAtom L) = o.atoms := by
    conv => rhs; rw [← List.map_id o.atoms]
    apply List.map_congr_left
    intro a ha
    simp [Cube.normAtom, hq a ha]
  have h2 : Cube.outTitle L o.title = o.title := by
    cases e : o.title with
    | nil => exact absurd e ht
    | cons _ _ => rfl
  simp [Cube.norm, h1, h2]

/-- Cube (known finding `cube:ghost-atom-core-charge`, proved on the model): a ghost atom (Z = 1, core charge 0) is
written with `0.000000` in the second column and comes back with core charge 1. -/
theorem cube_ghost_atom_violated :
    Cube.load cubeL (Cube.dump cubeL ⟨['g'], ⟨⟨false, 0⟩, ⟨false, 0⟩, ⟨false, 0⟩⟩, [1, 1, 1],
        [⟨⟨false, 1000000⟩, ⟨false, 0⟩, ⟨false, 0⟩⟩, ⟨⟨false, 0⟩, ⟨false, 1000000⟩, ⟨false, 0⟩⟩, ⟨⟨false, 0⟩, ⟨false, 0⟩, ⟨false, 1000000⟩⟩],
        [⟨1, ⟨false, 0⟩, ⟨false, 0⟩, ⟨false, 0⟩, ⟨false, 0⟩⟩], [⟨false, 100000, 0⟩]⟩)
      = .ok ⟨['g'], ⟨⟨false, 0⟩, ⟨false, 0⟩, ⟨false, 0⟩⟩, [1, 1, 1],
        [⟨⟨false, 1000000⟩, ⟨false, 0⟩, ⟨false, 0⟩⟩, ⟨⟨false, 0⟩, ⟨false, 1000000⟩, ⟨false, 0⟩⟩, ⟨⟨false, 0⟩, ⟨false, 0⟩, ⟨false, 1000000⟩⟩],
        [⟨1, ⟨false, 1000000⟩, ⟨false, 0⟩, ⟨false, 0⟩, ⟨false, 0⟩⟩], [⟨false, 100000, 0⟩]⟩ := by decide +kernel

/-- Cube: layout side conditions and the shape of the writer in the source. -/
theorem cube_layout_ok : Cube.LayoutOK cubeL ∧ cube_writes = Cube.expectedWrites cubeL := by
  refine ⟨by decide +kernel, ?_⟩
  simp only [cube_writes, cubeL, Cube.expectedWrites, toList_lit (by with_reducible rfl)]; rfl

def cubeVals (n : Nat) : List Sci := (List.range n).map fun k => ⟨k % 2 == 1, 100000 + k, (k : Int) - 3⟩

/-- Cube: the writer's counter loop (`counter % 6 == 5`, the reset at the end of a row when `shape[2] % 6 ≠ 0`) produces
exactly the lines of the closed form the theorems speak about — checked by computation for every row length 1 … 14 and
1 … 3 rows (the driver runs both on every generated case as well). -/
theorem cube_loop_is_closed_form :
    ∀ bs ∈ List.range' 1 14, ∀ rows ∈ [1, 2, 3],
      Cube.dataLoop cubeL bs 0 (cubeVals (bs * rows)) = (Cube.dataLines cubeL bs (cubeVals (bs * rows))).flatten := by
  -- only the places of the newlines are computed: no value is printed
  have key : ∀ bs ∈ List.range' 1 14, ∀ rows ∈ [1, 2, 3],
      Cube.loopT cubeL.per bs 0 (cubeVals (bs * rows)) = Cube.linesT cubeL bs (cubeVals (bs * rows)) := by decide +kernel
  intro bs hbs rows hrows
  rw [Cube.dataLoop_eq, Cube.dataLines_eq, key bs hbs rows hrows]

/-- non-vacuity: a 2 × 1 × 7 grid (row length 7: lines of 6 + 1), two atoms, negative and wide header numbers. -/
example : Cube.Dom cubeL ⟨[], ⟨⟨true, 123456789012⟩, ⟨false, 0⟩, ⟨true, 0⟩⟩, [2, 1, 7],
    [⟨⟨false, 1⟩, ⟨false, 0⟩, ⟨false, 0⟩⟩, ⟨⟨false, 0⟩, ⟨true, 5⟩, ⟨false, 0⟩⟩, ⟨⟨false, 0⟩, ⟨false, 0⟩, ⟨false, 999999999⟩⟩],
    [⟨8, ⟨false, 6000000⟩, ⟨true, 1⟩, ⟨false, 2⟩, ⟨false, 3⟩⟩, ⟨1, ⟨false, 1000000⟩, ⟨false, 0⟩, ⟨false, 0⟩, ⟨false, 0⟩⟩],
    cubeVals 14⟩ := by decide +kernel

/-- MOL2: the written file (comment, blank lines, MOLECULE record with title and counts, ATOM records, optional BOND
records) is read back as the object: any number of atoms and bonds (no column limits: every field is blank separated),
every element, coordinates and charges of any magnitude and sign, any blank-free atom type, every bond type of the table
(others come back as `un`); absent atom types come back as the element symbol, absent charges as 0. -/
theorem mol2_load_dump (T : Tables) (L : Mol2.Layout) (hL : Mol2.LayoutOK T L) (o : Mol2.Obj) (h : Mol2.Dom T L o) :
    Mol2.load T L (Mol2.dump T L o) = .ok (Mol2.norm T L o) :=
  Mol2.load_dump T L hL o h

/-- MOL2: objects with known elements are written, not refused. -/
theorem mol2_written_not_refused (T : Tables) (L : Mol2.Layout) (o : Mol2.Obj) (h : Mol2.Dom T L o) :
    Mol2.dumpE T L o = .ok (Mol2.dump T L o) := by
  rw [Mol2.dumpE, if_pos]
  refine List.all_eq_true.mpr fun a ha => ?_
  obtain ⟨s, hs, _⟩ := Mol2.okZ_spec (h.2.1 a ha).1
  simp [hs]

/-- MOL2: layout side conditions, all 118 elements are recognised from their symbol, every bond type name maps back,
and the writer in the source has the shape the model assumes. -/
theorem mol2_layout_ok : Mol2.LayoutOK tables mol2L ∧ (∀ z ∈ List.range' 1 118, Mol2.okZ tables z = true) ∧
    mol2_writes = Mol2.expectedWrites mol2L := by
  unfold Mol2.LayoutOK Mol2.expectedWrites Mol2.kMol Mol2.kAtom Mol2.kBond
  simp only [mol2_writes, toList_lit (by with_reducible rfl)]
  exact ⟨by decide +kernel, fun _ hz => let ⟨_, h⟩ := tables_row hz; Mol2.okZ_of_row h, rfl⟩

/-- non-vacuity: wide and negative coordinates, a long atom type, absent type/charge, every kind of bond type. -/
example : Mol2.Dom tables mol2L ⟨[], [⟨17, ⟨true, 123456789012345⟩, ⟨false, 0⟩, ⟨true, 0⟩, some "Cl.very.long".toList, some ⟨true, 12345⟩⟩,
    ⟨1, ⟨false, 1⟩, ⟨false, 2⟩, ⟨false, 3⟩, none, none⟩], some [⟨0, 1, 1⟩, ⟨1, 0, 4⟩, ⟨0, 1, 99⟩]⟩ := by
  simp only [toList_lit (by with_reducible rfl)]
  decide +kernel

/-! ## FCIDUMP, index layer of the two-electron integrals -/

/-- FCIDUMP: for every number of orbitals and every 8-fold symmetric array, the array the reader rebuilds
(`set_four_index_element(two_mo, ii, ik, ij, il, value)` per line, starting from zeros) from the lines of the writer's canonical
loop (`i1 ≤ i0`, `i3 ≤ i2`, `i0(i0+1)/2+i1 ≥ i2(i2+1)/2+i3`, zeros skipped, chemists' `(i0 i1|i2 i3)` = physicists'
`[i0, i2, i1, i3]`) equals the written array at every position: nothing permuted, nothing lost, no element attached to a
different index quadruple. -/
theorem fcidump_two_electron_roundtrip (α : Type) [DecidableEq α] (zero : α) (n : Nat) (T : Helpers.Idx → α) (h : Fcidump.Sym T)
    (p : Helpers.Idx) (hp : p.1 < n ∧ p.2.1 < n ∧ p.2.2.1 < n ∧ p.2.2.2 < n) :
    Fcidump.fill zero (Fcidump.entries zero n T) p = T p :=
  Fcidump.fill_entries zero n T h p hp

/-- FCIDUMP: the writer's loop emits exactly the canonical index quadruples with a non-zero element, all inside the array. -/
theorem fcidump_loop_spec (α : Type) [DecidableEq α] (zero : α) (n : Nat) (T : Helpers.Idx → α) (e : Fcidump.Entry α) :
    e ∈ Fcidump.entries zero n T ↔ e.i0 < n ∧ e.i1 ≤ e.i0 ∧ e.i2 < n ∧ e.i3 ≤ e.i2 ∧
      Fcidump.tri e.i0 + e.i1 ≥ Fcidump.tri e.i2 + e.i3 ∧ T (e.i0, e.i2, e.i1, e.i3) ≠ zero ∧ e.v = T (e.i0, e.i2, e.i1, e.i3) :=
  Fcidump.mem_entries zero n T e

/-- non-vacuity: two orbitals give the six canonical quadruples in the writer's order. -/
example : (Fcidump.entries (0 : Int) 2 (fun _ => 1)).map (fun e => (e.i0, e.i1, e.i2, e.i3)) =
    [(0, 0, 0, 0), (1, 0, 0, 0), (1, 0, 1, 0), (1, 1, 0, 0), (1, 1, 1, 0), (1, 1, 1, 1)] := by decide

/-! ## POSCAR, structure layer -/

/-- POSCAR: the documented re-ordering — atoms grouped by element, heaviest first — is a permutation of the atoms (none
lost, none duplicated, each keeps its own coordinates), keeps the original order inside every element, and the element
and count lines expand (in the reader) to exactly the atomic numbers of the written sequence. -/
theorem poscar_grouping (α : Type) (key : α → Nat) (atoms : List α) :
    (Poscar.group key atoms).Perm atoms ∧
    (∀ z, (Poscar.group key atoms).filter (fun a => key a == z) = atoms.filter (fun a => key a == z)) ∧
    (Poscar.group key atoms).map key = Poscar.expand (Poscar.counts key atoms) ∧
    (Poscar.uniqDesc (atoms.map key)).Pairwise (· > ·) :=
  ⟨Poscar.group_perm key atoms, Poscar.group_stable key atoms, Poscar.group_keys key atoms, Poscar.uniqDesc_sorted _⟩

/-- POSCAR: direct coordinates.  In exact arithmetic the reader's `frac · cell` undoes the writer's `inv(cell)ᵀ · r` for every
cell with non-zero determinant (explicit 3×3 adjugate), so any deviation of the real code is floating-point round-off only. -/
theorem poscar_fractional_roundtrip (cell : Poscar.M3) (h : Poscar.det cell ≠ 0) (r : Poscar.V3) :
    Poscar.toCart cell (Poscar.toFrac cell r) = r :=
  Poscar.toCart_toFrac cell h r

/-- non-vacuity: Z = [1, 8, 1, 6, 8] is written in the order O O C H H = atoms 1, 4, 3, 0, 2. -/
example : Poscar.group (fun (a : Nat × Nat) => a.1) [(1, 0), (8, 1), (1, 2), (6, 3), (8, 4)] = [(8, 1), (8, 4), (6, 3), (1, 0), (1, 2)] ∧
    Poscar.counts (fun (a : Nat × Nat) => a.1) [(1, 0), (8, 1), (1, 2), (6, 3), (8, 4)] = [(8, 2), (6, 1), (1, 2)] := by decide

end Iodata.Props.C02
