/-
C18 — the command-line converter does exactly what the API does.

Property theorems and the reference data their statements mention (`refConvert`, `refMain`, `symEnv`, `hasTry`,
`fpNames`, `catchesFP`).  `convert` and `main` of `iodata/__main__.py` are extracted into the flow IR on every
run (`Gen/ApiFlow.lean`: `convert`, `main`, `signatures`, `argparseTable`, `cliImports`, `cliRebound`); the
model of argument binding / argparse / evaluation is `Iodata/Model/Cli.lean` (the same functions the driver
runs for the `cli` correspondence stream); the binding of each call site against its callee's signature is
evaluated once, in `Iodata/Lemmas/Cli.lean`.  What the API calls then do is C07/C08.

Modelled, not proved: numpy's floating-point traps (`np.seterr(... "raise")`) only turn computations that
would have produced inf/nan silently into exceptions.  That such an exception always reaches `main`'s caller
(⇒ non-zero exit; so exit 0 ⇒ no trap fired ⇒ the API's code path and bytes) is `fp_traps_never_swallowed` over
the handler table regenerated from every module of the package (`Gen/Handlers.lean`).
-/
import Iodata.Lemmas.Cli
import Iodata.Lemmas.StrLit
import Iodata.Props.C08
import Iodata.Gen.ApiFlow
import Iodata.Gen.Handlers

namespace Iodata.Props.C18
open Iodata.Flow Iodata.Cli Iodata.Gen

/-- hand transcription of `convert` -/
def refConvert : Stmt :=
  .ifVar "many"
    (.seq (.call (.api "load_many") ["infn", "fmt=infmt"] "")
      (.call (.api "dump_many") ["load_many(infn, fmt=infmt)", "outfn", "allow_changes=allow_changes", "fmt=outfmt"] ""))
    (.seq (.call (.api "load_one") ["infn", "fmt=infmt"] "")
      (.call (.api "dump_one") ["load_one(infn, fmt=infmt)", "outfn", "allow_changes=allow_changes", "fmt=outfmt"] ""))

/-- hand transcription of `main`: `np.seterr`, `parse_args`, `convert` -/
def refMain : Stmt :=
  .seq (.call (.pure "np.seterr") ["divide='raise'", "over='raise'", "invalid='raise'"] "")
    (.seq (.call (.pure "parse_args") [] "args")
      (.call (.api "convert")
        ["args.input", "args.output", "args.many", "args.infmt", "args.outfmt", "args.allow_changes"] ""))

/-- `convert` is `dump_one(load_one(…))` / `dump_many(load_many(…))` and nothing else. -/
theorem flow_matches_convert : ApiFlow.convert = refConvert := rfl
/-- `main` sets the floating-point traps, parses the arguments and calls `convert`; nothing else. -/
theorem flow_matches_main : ApiFlow.main = refMain := rfl

/-- the names `load_one` … used in `__main__.py` are the API functions (imported from `.api`, never re-bound). -/
theorem cli_uses_api_functions :
    ApiFlow.cliImports = [".api:dump_many:dump_many", ".api:dump_one:dump_one", ".api:load_many:load_many",
                          ".api:load_one:load_one"] ∧ ApiFlow.cliRebound = [] := ⟨rfl, rfl⟩

def symEnv (many : String) : ValEnv :=
  [("many", many), ("infn", "‹infn›"), ("outfn", "‹outfn›"), ("infmt", "‹infmt›"), ("outfmt", "‹outfmt›"),
   ("allow_changes", "‹allow›")]

/-- Single frame.  With Python's binding rules applied to the *extracted* call and the
*extracted* signatures of `load_one` / `dump_one`: the input name and input format go to `load_one`, the
output name, output format and the allow-changes flag go to `dump_one`, whose data argument is the result of
that `load_one` call.  (The parameter values are opaque symbols, so this holds for all values.) -/
theorem argument_binding_one :
    apiCalls ApiFlow.signatures (symEnv "False") ApiFlow.convert =
      some [("load_one", [("filename", "‹infn›"), ("fmt", "‹infmt›")]),
            ("dump_one", [("data", "load_one(infn, fmt=infmt)"), ("filename", "‹outfn›"), ("fmt", "‹outfmt›"),
                          ("allow_changes", "‹allow›")])] := by
  simp only [ApiFlow.convert, ↓apiCalls_api, apiCalls, bound_calls]
  decide +kernel

/-- The same with `--many`: `load_many` / `dump_many`. -/
theorem argument_binding_many :
    apiCalls ApiFlow.signatures (symEnv "True") ApiFlow.convert =
      some [("load_many", [("filename", "‹infn›"), ("fmt", "‹infmt›")]),
            ("dump_many", [("iter_data", "load_many(infn, fmt=infmt)"), ("filename", "‹outfn›"), ("fmt", "‹outfmt›"),
                           ("allow_changes", "‹allow›")])] := by
  simp only [ApiFlow.convert, ↓apiCalls_api, apiCalls, bound_calls]
  decide +kernel

/-- `main` hands the parsed options to the parameters of `convert` with the same meaning. -/
theorem main_binding :
    apiCalls ApiFlow.signatures
        [("args.input", "‹input›"), ("args.output", "‹output›"), ("args.many", "‹many›"), ("args.infmt", "‹infmt›"),
         ("args.outfmt", "‹outfmt›"), ("args.allow_changes", "‹allow›")] ApiFlow.main =
      some [("convert", [("infn", "‹input›"), ("outfn", "‹output›"), ("many", "‹many›"), ("infmt", "‹infmt›"),
                         ("outfmt", "‹outfmt›"), ("allow_changes", "‹allow›")])] := by
  simp only [ApiFlow.main, ↓apiCalls_api, apiCalls, bound_calls]
  decide +kernel

/-- the argparse table: `-i` / `--infmt`, `-o` / `--outfmt` take a value (default `None`), `-c` / `--allow-changes` and
`-m` / `--many` are flags (default `False`), two positionals `input`, `output`; destinations as `main` reads them. -/
theorem argparse_table :
    options ApiFlow.argparseTable =
      [{ flags := ["-i", "--infmt"], dest := "infmt", storeTrue := false, positional := false, dflt := "None" },
       { flags := ["-o", "--outfmt"], dest := "outfmt", storeTrue := false, positional := false, dflt := "None" },
       { flags := ["-c", "--allow-changes"], dest := "allow_changes", storeTrue := true, positional := false, dflt := "False" },
       { flags := ["-m", "--many"], dest := "many", storeTrue := true, positional := false, dflt := "False" },
       { flags := ["input"], dest := "input", storeTrue := false, positional := true, dflt := "None" },
       { flags := ["output"], dest := "output", storeTrue := false, positional := true, dflt := "None" }] := by decide +kernel

/-- option values are passed to the API verbatim: no `add_argument` call installs a `type=` conversion, a `choices=`
restriction, `nargs=`, `const=` or `required=` (so e.g. a format name is neither normalised nor pre-validated by the CLI) -/
theorem argparse_verbatim :
    ApiFlow.argparseTable.all (fun row => row.all (fun s =>
      !(sw s "type=" || sw s "choices=" || sw s "nargs=" || sw s "const=" || sw s "required="))) = true := by
  -- the literals are spelt out first: the kernel would run the UTF-8 decoder on every `"…".toList`
  simp only [ApiFlow.argparseTable, List.all_cons, List.all_nil, sw, Chars.toList_lit (by with_reducible rfl)]
  decide +kernel

/-- does a term contain a `try`? -/
def hasTry : Stmt → Bool
  | .seq a b => hasTry a || hasTry b
  | .try_ _ _ => true
  | .ifVar _ t e => hasTry t || hasTry e
  | .ifHasattr _ _ t e => hasTry t || hasTry e
  | .ifNone _ t => hasTry t
  | .withOpen _ _ _ b => hasTry b
  | .forEach _ _ b => hasTry b
  | .inl _ _ b => hasTry b
  | .consume _ _ g => hasTry g
  | _ => false

/-- neither `convert` nor `main` catches anything: every exception of an API call leaves `main`, i.e. the
process ends with a traceback and a non-zero status; success is reported only if both API calls returned. -/
theorem cli_catches_nothing : hasTry ApiFlow.convert = false ∧ hasTry ApiFlow.main = false := ⟨rfl, rfl⟩

/-- end-to-end on concrete argument vectors (evaluated by the kernel): options given or inferred. -/
theorem main_examples :
    runMain ApiFlow.signatures ApiFlow.argparseTable ApiFlow.main ApiFlow.convert ["a.xyz", "b.sdf"]
      = some "load_one(filename=a.xyz,fmt=None) dump_one(filename=b.sdf,fmt=None,allow_changes=False)" ∧
    runMain ApiFlow.signatures ApiFlow.argparseTable ApiFlow.main ApiFlow.convert
        ["-m", "-c", "-i", "xyz", "--outfmt", "pdb", "a", "b"]
      = some "load_many(filename=a,fmt=xyz) dump_many(filename=b,fmt=pdb,allow_changes=True)" ∧
    runMain ApiFlow.signatures ApiFlow.argparseTable ApiFlow.main ApiFlow.convert ["a.xyz"] = some "usage-error" := by
  simp only [runMain, parseArgv, argparse_table, ApiFlow.main, ApiFlow.convert, ↓apiCalls_api, apiCalls,
    bound_calls]
  decide +kernel

/-- **composition with C08.**  The dump stage of the CLI is the API's `dump_one` bound to the output name
(`argument_binding_one`), so a pre-flight rejection there leaves every file — in particular an existing
output file — untouched and never opens it (`C08.dump_one_preflight` on the generated term). -/
theorem cli_preflight_spares_output (b : Beh) (f : Frame) (path : Nat) (fs : FS) (e : Exc)
    (hsel : b.select = none) (hbad : preFault b f = some e) (he : e.isException = true) :
    (runOne ApiFlow.dumpOne b f path fs).1 = .raised .prepareDump none ∧
    (runOne ApiFlow.dumpOne b f path fs).2.fs = fs ∧
    Ev.openW ∉ (runOne ApiFlow.dumpOne b f path fs).2.trace := by
  rw [C08.flow_matches_dump_one]
  obtain ⟨h1, h2, h3, -⟩ := C08.dump_one_preflight b f path fs e hsel hbad he
  exact ⟨h1, h2, h3⟩

/-! ### floating-point traps: the only thing the CLI adds to the API -/

/-- exception classes through which a handler would intercept a trapped `FloatingPointError` -/
def fpNames : List String := ["FloatingPointError", "ArithmeticError", "Exception", "BaseException", ""]

def catchesFP (h : Handlers.Handler) : Bool :=
  (h.kind == "except" || h.kind == "suppress") && h.caught.any (fun c => fpNames.contains c)

/-- **fp_traps_never_swallowed.**  In the whole package (1) every `except` clause / `contextlib.suppress` that can
intercept a `FloatingPointError` ends in `raise` on every path (the API funnels, which convert it into
`LoadError` / `DumpError` / …), so a trap that fires under the CLI can never be turned into a normal return with
other content than the API's; (2) the only statement that sets numpy's error mode is the one in `main`. -/
theorem fp_traps_never_swallowed :
    (Handlers.handlers.filter catchesFP).all (fun h => h.reraises) = true ∧
    (Handlers.handlers.filter (fun h => h.kind == "seterr")).all
      (fun h => h.module == "iodata.__main__" && h.func == "main") = true := by
  decide +kernel

/-- non-vacuity: the table does contain FP-intercepting handlers (the API funnels) and the `seterr` of `main`. -/
example : 5 ≤ (Handlers.handlers.filter catchesFP).length ∧
    (Handlers.handlers.filter (fun h => h.kind == "seterr")).length = 1 := by decide +kernel

end Iodata.Props.C18
