/-
C04 — every physical quantity is in atomic units, consistently across formats.

Finite proof by kernel evaluation over `Iodata/Gen/Units.lean` (regenerated from /repo on every run: the float
constants of `iodata/utils.py` as exact rationals, and the table of probed effective unit factors of the readers
and writers) against the hand-written reference data of `Iodata/Model/Units.lean` (CODATA 2018 and 2022, the unit
each format prescribes).  Consistency across formats (`cross_format`) is not evaluated pair by pair: it follows
from the per-row table by `Iodata/Lemmas/Units.lean`.
-/
import Iodata.Lemmas.Units
import Iodata.Gen.Units

namespace Iodata.Props.C04
open Iodata.Units Iodata.Gen.Units

/-- Each conversion constant of `iodata/utils.py` is within 1e-8 (relative) of the value derived in ℚ from the
CODATA 2018 **and** the CODATA 2022 adjustments; all ten constants are present and there is no other float
constant in the module without a reference value. -/
theorem constants_codata :
    (constants.all fun p => constOk p.1 p.2) = true ∧
    (constantUnits.all fun cu => constants.any fun p => p.1 == cu.1) = true ∧
    otherFloatNames = [] := by
  decide +kernel

/- Full statement (FALSE on the current tree, see the `…_violated` theorems below and known_findings.json):
   theorem units_table : (rows.all (rowOk constants)) = true -/

/-- Every probed reader/writer factor equals the library constant (`Gen.Units.constants`, tied to CODATA by
`constants_codata`) of the unit its format prescribes, to 1e-9 relative plus the print quantum of a writer — except exactly the known rows
`Iodata.Units.knownRows` (GAMESS, Q-Chem, QCSchema masses left in amu; Q-Chem dipole/quadrupole left in
Debye(-Å); existing tests pin those values). -/
theorem units_table_partial : (rows.all fun r => isKnown r.fmt r.qty || rowOk constants r) = true := by
  decide +kernel

/-- Every line of the spec table is exercised by at least one probe row. -/
theorem units_table_covered : covered rows = true := by decide +kernel

/-- Converting between two formats never changes a quantity by a unit factor: for every load row and every dump
row of the same quantity whose formats prescribe the same unit, file number → attribute → file number is the
identity (up to the writers' print quanta).  (Known rows excluded.) -/
theorem cross_format : crossAll rows = true :=
  crossAll_of_rowOk constants rows units_table_partial (by decide +kernel)

/-- the probe rows of one (format, quantity) all violate the table, and there is at least one -/
def violated (fmt qty : String) : Bool :=
  let rs := rows.filter fun r => r.fmt == fmt && r.qty == qty && r.dir != "redump"
  !rs.isEmpty && rs.all fun r => !rowOk constants r

/-- KNOWN: masses from GAMESS punch files stay in amu (factor 1 instead of `amu`). -/
theorem units_table_violated_gamess_atmasses : violated "gamess" "atmasses" = true := by decide +kernel
/-- KNOWN: masses from Q-Chem logs stay in amu. -/
theorem units_table_violated_qchemlog_atmasses : violated "qchemlog" "atmasses" = true := by decide +kernel
/-- KNOWN: QCSchema `masses` are read and written in amu. -/
theorem units_table_violated_json_atmasses : violated "json" "atmasses" = true := by decide +kernel
/-- KNOWN: Q-Chem dipole moments stay in Debye. -/
theorem units_table_violated_qchemlog_dipole : violated "qchemlog" "dipole" = true := by decide +kernel
/-- KNOWN: Q-Chem quadrupole moments stay in Debye·Å. -/
theorem units_table_violated_qchemlog_quadrupole : violated "qchemlog" "quadrupole" = true := by decide +kernel

-- the checks reject wrong factors
example : rowOk constants ⟨"xyz", "atcoords", "load", 1, (18897261259 : Rat) / 10000000000, 0⟩ = true := by decide +kernel
example : rowOk constants ⟨"xyz", "atcoords", "load", 1, (18899 : Rat) / 10000, 0⟩ = false := by decide +kernel   -- Å off by 1e-4
example : rowOk constants ⟨"xyz", "atcoords", "load", 1, (10000 : Rat) / 18897, 0⟩ = false := by decide +kernel   -- divided instead of multiplied
example : rowOk constants ⟨"gromacs", "atcoords", "load", 1, (18897261259 : Rat) / 10000000000, 0⟩ = false := by decide +kernel  -- Å instead of nm
example : constOk "angstrom" ((18899 : Rat) / 10000) = false := by decide +kernel
example : constOk "amu" ((1822888486 : Rat) / 1000000) = true := by decide +kernel

end Iodata.Props.C04
