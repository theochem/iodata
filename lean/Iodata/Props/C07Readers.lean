/-
C07 — the PARSER part for the formats with a raw reader model (`Model/Rd/*`, the same functions the driver runs for
the `rdr` correspondence stream on malformed files).  For ALL lists of lines: the reader makes at most `N + 1` reads
on a file of `N` lines (`N + 2` for the VASP grid formats), a returned object has mutually consistent shapes, and
through the funnel of `Props/C07.lean` `iodata.api.load_one` returns the object or raises `LoadError`.
-/
import Iodata.Lemmas.C07Readers
import Iodata.Lemmas.C07Vasp
import Iodata.Lemmas.C07Crd
import Iodata.Props.C07
import Iodata.Gen.Layouts

namespace Iodata.Props.C07Readers
open Iodata.Chars Iodata.Rd Iodata.Flow Iodata.Flow.Ref Iodata.Fmt

/-- the outcome of `iodata.api.load_one` is an object or a `LoadError` -/
def IsObjOrLoadError (o : Flow.Out) : Prop := o = .ret ∨ ∃ ln, o = .raised .load ln

theorem apiOutcome_ok (r : Rd.Out RObj) : IsObjOrLoadError (apiOutcome r) := by
  unfold apiOutcome
  split
  · split
    · exact Or.inl rfl
    · exact Or.inr ⟨_, rfl⟩
  · exact Or.inr ⟨_, rfl⟩
  · exact Or.inr ⟨_, rfl⟩

/-- **ctor_shapes** (iodata.py / attrutils.py validators).  A result dictionary either passes
`IOData(**result)` — then all per-atom arrays agree with `natom` (atcoords `(natom, 3)`, atnums and atcorenums
`(natom,)`, every `atcharges` entry `natom` long, bonds and cellvecs `(·, 3)`) — or the constructor raises
`TypeError`, which the funnel turns into `LoadError`. -/
theorem ctor_shapes (o : RObj) :
    (ctorE o = none ∧ ∀ n, o.natom = some n → o.Consistent n) ∨ ctorE o = some .type := by
  unfold ctorE
  by_cases h : ctorOk o = true
  · left; simp only [h, if_true, true_and]; intro n hn; exact ctorOk_consistent o n hn h
  · right; simp [h]

/-- **reader_load_one** (funnel composition, any reader).  For every reader outcome `r` on a file of `n`
lines — an object (then the constructor runs), or any class of the enumeration, `StopIteration` included —
`load_one` returns the object or raises `LoadError` and nothing else; a funnel-made `LoadError` carries the
reader's line counter; the file system is unchanged, the file was opened once and the last event is its close. -/
theorem reader_load_one (r : Rd.Out RObj) (n path : Nat) (fs : FS) :
    ∃ st', runLoadOne loadOne (behOf r n) path fs = (apiOutcome r, st') ∧ IsObjOrLoadError (apiOutcome r) ∧
      st'.fs = fs ∧ ∃ evs, st'.trace = .close :: (evs ++ [.openR]) ∧ LoadEvs evs := by
  obtain ⟨o, st', h1, h2, h3, -⟩ := Iodata.Props.C07.load_one_funnel (behOf r n) path fs rfl rfl
  have h := api_of_out r n path fs
  rw [h1] at h
  simp only at h
  subst h
  exact ⟨st', h1, apiOutcome_ok r, h2, h3⟩

/-- **reader_load_many_partial** (frames of a generator-based `load_many`).  For ANY sequence of reader
outcomes `rs` served as the frames of a format's `load_many` generator (each frame: its reads, then the reader's
outcome — a `StopIteration` leaving the generator body becomes `RuntimeError` by PEP 479 — then the constructor),
any way the generator ends, and a user who exhausts the iterator or discards it after `k` frames: the iteration
ends normally or with `LoadError`, the file is closed, the file system unchanged.
PARTIAL: the statement inherits the fourth alternative of `load_many_funnel` (a class that is not an `Exception`
passes through).  The reader classes are all `Exception`s (`clsExc_isException`); that they never produce it is
proved for `load_one` only (`reader_load_one`). -/
theorem reader_load_many_partial (rs : List (Rd.Out RObj)) (n path : Nat) (fs : FS) (quota : Option Nat)
    (iend : Option Exc) (hq : quota ≠ some 0) :
    ∃ o st', runLoadMany loadMany
        { nlines := n, items := rs.map itemOf, fmtIsGen := true, quota := quota, itemsEnd := iend } path fs = (o, st') ∧
      st'.fs = fs ∧ (∃ evs, st'.trace = .close :: (evs ++ [.openR]) ∧ LoadEvs evs) ∧
      (o = .normal ∨ o = .ret ∨ (∃ ln, o = .raised .load ln ∧ (ln = none ∨ ln = some (lineCount st'.trace)))
        ∨ (∃ e, o = .raised e none ∧ e.isException = false)) :=
  Iodata.Props.C07.load_many_funnel _ path fs rfl rfl hq

theorem reader_load_one_ret (r : Rd.Out RObj) :
    apiOutcome r = .ret ↔ ∃ o, r.res = .ok o ∧ ctorOk o = true := by
  unfold apiOutcome
  split
  · next o ho =>
    rw [ho]
    constructor
    · intro h
      split at h
      · exact ⟨o, rfl, by assumption⟩
      · cases h
    · rintro ⟨o', ho', hc⟩
      cases ho'
      exact if_pos hc
  · next h => rw [h]; exact ⟨fun h => (nomatch h), fun ⟨_, h, _⟩ => (nomatch h)⟩
  · next h => rw [h]; exact ⟨fun h => (nomatch h), fun ⟨_, h, _⟩ => (nomatch h)⟩

attribute [local simp] ctorOk RObj.natom optShape lenOf shapeMatch_one_self shapeMatch_two_self shapeMatch_rows

/-- **xyz_terminates**: on any list of lines the XYZ reader returns an object or raises a class of the
enumeration, after at most `N + 1` reads. -/
theorem xyz_terminates (T : Tables) (ls : List Str) :
    ((∃ o, (Rd.Xyz.read T ls).res = .ok o) ∨ (∃ c, (Rd.Xyz.read T ls).res = .error c)) ∧
    (Rd.Xyz.read T ls).lineno ≤ ls.length + 1 :=
  ⟨res_cases _, run_lineno_le (xyz_good T).fin ls⟩

/-- **xyz_shapes**: a returned XYZ result has `atnums` of shape `(natom,)` and `atcoords` of shape `(natom, 3)`
for one `natom`, and passes the constructor. -/
theorem xyz_shapes (T : Tables) (ls : List Str) (o : RObj) (h : (Rd.Xyz.read T ls).res = .ok o) :
    ∃ n, o.natom = some n ∧ o.FullyConsistent n ∧ ctorE o = none := by
  obtain ⟨n, rfl⟩ := run_ok (xyz_form T) h
  exact ⟨n, fullyConsistent_of_ctorOk rfl (by simp) (by simp) (by simp)⟩

/-- **xyz_load_one**: `load_one` on any XYZ file content returns an object with consistent shapes or raises
`LoadError`; the file is closed. -/
theorem xyz_load_one (T : Tables) (ls : List Str) (path : Nat) (fs : FS) :
    ∃ st', runLoadOne loadOne (behOf (Rd.Xyz.read T ls) ls.length) path fs = (apiOutcome (Rd.Xyz.read T ls), st') ∧
      IsObjOrLoadError (apiOutcome (Rd.Xyz.read T ls)) ∧ st'.fs = fs ∧
      ∃ evs, st'.trace = .close :: (evs ++ [.openR]) ∧ LoadEvs evs :=
  reader_load_one _ _ _ _

/-- **sdf_terminates**: on any list of lines the SDF reader (atom loop and bond loop bounded by the counts it
read, the `$$$$` search by the remaining lines) returns an object or raises a class of the enumeration, after at
most `N + 1` reads. -/
theorem sdf_terminates (T : Tables) (L : Rd.Sdf.Layout) (ls : List Str) :
    ((∃ o, (Rd.Sdf.read T L ls).res = .ok o) ∨ (∃ c, (Rd.Sdf.read T L ls).res = .error c)) ∧
    (Rd.Sdf.read T L ls).lineno ≤ ls.length + 1 :=
  ⟨res_cases _, run_lineno_le (sdf_good T L).fin ls⟩

/-- **sdf_shapes**: a returned SDF result has `atcoords (natom, 3)`, `atnums (natom,)` and `bonds (nbond, 3)`,
and passes the constructor. -/
theorem sdf_shapes (T : Tables) (L : Rd.Sdf.Layout) (ls : List Str) (o : RObj)
    (h : (Rd.Sdf.read T L ls).res = .ok o) :
    ∃ n, o.natom = some n ∧ o.FullyConsistent n ∧ ctorE o = none := by
  obtain ⟨n, m, rfl⟩ := run_ok (sdf_form T L) h
  exact ⟨n, fullyConsistent_of_ctorOk rfl (by simp) (by simp) (by simp)⟩

/-- **sdf_load_one**: `load_one` on any SDF file content returns an object with consistent shapes or raises
`LoadError`; the file is closed. -/
theorem sdf_load_one (T : Tables) (L : Rd.Sdf.Layout) (ls : List Str) (path : Nat) (fs : FS) :
    ∃ st', runLoadOne loadOne (behOf (Rd.Sdf.read T L ls) ls.length) path fs
        = (apiOutcome (Rd.Sdf.read T L ls), st') ∧
      IsObjOrLoadError (apiOutcome (Rd.Sdf.read T L ls)) ∧ st'.fs = fs ∧
      ∃ evs, st'.trace = .close :: (evs ++ [.openR]) ∧ LoadEvs evs :=
  reader_load_one _ _ _ _

/-- **mol2_fuel** (the fuel bound): `N + 1` iterations of the record loop are enough for a file of `N` lines —
the reader never runs out of fuel, i.e. the real `while True` loop terminates on every content. -/
theorem mol2_fuel (ls : List Str) : (Rd.Mol2.loadOneF (ls.length + 1) ⟨ls, 0⟩).isSome = true := by
  obtain ⟨r, l', h, -⟩ := mol2_loop_wf (ls.length + 1) {} ⟨ls, 0⟩ ls.length (by simp [Clean]) (by simp)
  unfold Rd.Mol2.loadOneF
  rw [h]
  cases r <;> rfl

/-- **mol2_terminates**: on any list of lines the MOL2 reader returns an object or raises a class of the
enumeration (never the out-of-fuel default), after at most `N + 1` reads. -/
theorem mol2_terminates (ls : List Str) :
    (∃ r l', Rd.Mol2.loadOneF (ls.length + 1) ⟨ls, 0⟩ = some (r, l') ∧ Rd.Mol2.read ls = ⟨r, l'.lineno⟩) ∧
    (Rd.Mol2.read ls).lineno ≤ ls.length + 1 := by
  obtain ⟨r, l', h, hw⟩ := mol2_loop_wf (ls.length + 1) {} ⟨ls, 0⟩ ls.length (by simp [Clean]) (by simp)
  have hle : l'.lineno ≤ ls.length + 1 := wf_lineno_le hw
  unfold Rd.Mol2.read Rd.Mol2.loadOneF
  rw [h]
  cases r with
  | ok st => exact ⟨⟨_, _, rfl, rfl⟩, hle⟩
  | error e => exact ⟨⟨_, _, rfl, rfl⟩, hle⟩

/-- **mol2_shapes**: a returned MOL2 result has `atcoords (natom, 3)`, `atnums (natom,)`, `natom` charges and
`natom` atom types (the `atffparams` entry no validator looks at), bonds `(nbond, 3)` when present, and passes the
constructor. -/
theorem mol2_shapes (ls : List Str) (o : RObj) (h : (Rd.Mol2.read ls).res = .ok o) :
    ∃ n, o.natom = some n ∧ o.FullyConsistent n ∧ ctorE o = none := by
  obtain ⟨n, b, rfl⟩ := mol2_form ls o h
  exact ⟨n, fullyConsistent_of_ctorOk rfl (by cases b <;> simp) (by simp) (by simp)⟩

/-- **mol2_load_one**: `load_one` on any MOL2 file content returns an object with consistent shapes or raises
`LoadError` (the unbound-variable paths of the parser included); the file is closed. -/
theorem mol2_load_one (ls : List Str) (path : Nat) (fs : FS) :
    ∃ st', runLoadOne loadOne (behOf (Rd.Mol2.read ls) ls.length) path fs = (apiOutcome (Rd.Mol2.read ls), st') ∧
      IsObjOrLoadError (apiOutcome (Rd.Mol2.read ls)) ∧ st'.fs = fs ∧
      ∃ evs, st'.trace = .close :: (evs ++ [.openR]) ∧ LoadEvs evs :=
  reader_load_one _ _ _ _

/-- **pdb_terminates**: on any list of lines the PDB reader (one line per iteration of the record loop) returns
an object or raises a class of the enumeration, after at most `N + 1` reads. -/
theorem pdb_terminates (L : Rd.Pdb.Layout) (ls : List Str) :
    ((∃ o, (Rd.Pdb.read L ls).res = .ok o) ∨ (∃ c, (Rd.Pdb.read L ls).res = .error c)) ∧
    (Rd.Pdb.read L ls).lineno ≤ ls.length + 1 :=
  ⟨res_cases _, run_lineno_le (pdb_fin L) ls⟩

/-- **pdb_shapes**: a returned PDB result has `atcoords (natom, 3)`, `atnums (natom,)`, three `atffparams`
arrays and the occupancies / B-factors / chain identifiers in `extra` all of length `natom ≥ 1` (they are built
from lists appended together), bonds `(nbond, 3)` when present, and passes the constructor. -/
theorem pdb_shapes (L : Rd.Pdb.Layout) (ls : List Str) (o : RObj) (h : (Rd.Pdb.read L ls).res = .ok o) :
    ∃ n, 0 < n ∧ o.natom = some n ∧ o.FullyConsistent n ∧ ctorE o = none := by
  obtain ⟨n, c, b, hn, rfl⟩ := pdb_form L ls o h
  exact ⟨n, hn, fullyConsistent_of_ctorOk rfl (by cases b <;> simp) (by simp) (by cases c <;> simp)⟩

/-- **pdb_load_one**: `load_one` on any PDB file content returns an object with consistent shapes or raises
`LoadError`; the file is closed. -/
theorem pdb_load_one (L : Rd.Pdb.Layout) (ls : List Str) (path : Nat) (fs : FS) :
    ∃ st', runLoadOne loadOne (behOf (Rd.Pdb.read L ls) ls.length) path fs = (apiOutcome (Rd.Pdb.read L ls), st') ∧
      IsObjOrLoadError (apiOutcome (Rd.Pdb.read L ls)) ∧ st'.fs = fs ∧
      ∃ evs, st'.trace = .close :: (evs ++ [.openR]) ∧ LoadEvs evs :=
  reader_load_one _ _ _ _

/-- **cube_terminates**: on any list of lines the cube reader (atom loop bounded by `natom`, data loop by the
grid size, each iteration consuming a word) returns an object or raises a class of the enumeration, after at
most `N + 1` reads. -/
theorem cube_terminates (ls : List Str) :
    ((∃ o, (Rd.Cube.read ls).res = .ok o) ∨ (∃ c, (Rd.Cube.read ls).res = .error c)) ∧
    (Rd.Cube.read ls).lineno ≤ ls.length + 1 :=
  ⟨res_cases _, run_lineno_le cube_good.fin ls⟩

/-- **cube_shapes**: a returned cube result has `atcoords (natom, 3)`, `atnums` and `atcorenums` `(natom,)`,
cell vectors `(3, 3)`, and passes the constructor. -/
theorem cube_shapes (ls : List Str) (o : RObj) (h : (Rd.Cube.read ls).res = .ok o) :
    ∃ n, o.natom = some n ∧ o.FullyConsistent n ∧ ctorE o = none := by
  obtain ⟨n, g, rfl⟩ := run_ok cube_form h
  exact ⟨n, fullyConsistent_of_ctorOk rfl (by simp) (by simp) (by simp)⟩

/-- **cube_load_one**: `load_one` on any cube file content returns an object with consistent shapes or raises
`LoadError`; the file is closed. -/
theorem cube_load_one (ls : List Str) (path : Nat) (fs : FS) :
    ∃ st', runLoadOne loadOne (behOf (Rd.Cube.read ls) ls.length) path fs = (apiOutcome (Rd.Cube.read ls), st') ∧
      IsObjOrLoadError (apiOutcome (Rd.Cube.read ls)) ∧ st'.fs = fs ∧
      ∃ evs, st'.trace = .close :: (evs ++ [.openR]) ∧ LoadEvs evs :=
  reader_load_one _ _ _ _

/-- **gro_terminates**: on any list of lines the GRO reader returns an object or raises a class of the
enumeration, after at most `N + 1` reads. -/
theorem gro_terminates (ls : List Str) :
    ((∃ o, (Rd.Gro.read ls).res = .ok o) ∨ (∃ c, (Rd.Gro.read ls).res = .error c)) ∧
    (Rd.Gro.read ls).lineno ≤ ls.length + 1 :=
  ⟨res_cases _, run_lineno_le gro_good.fin ls⟩

/-- **gro_shapes**: a returned GRO result has `atcoords (natom, 3)`, three `atffparams` arrays and the
velocities of length `natom` (none of them seen by a validator), cell vectors `(3, 3)`, and passes the
constructor. -/
theorem gro_shapes (ls : List Str) (o : RObj) (h : (Rd.Gro.read ls).res = .ok o) :
    ∃ n, o.natom = some n ∧ o.FullyConsistent n ∧ ctorE o = none := by
  obtain ⟨n, rfl⟩ := run_ok gro_form h
  exact ⟨n, fullyConsistent_of_ctorOk rfl (by simp) (by simp) (by simp)⟩

/-- **gro_load_one**: `load_one` on any GRO file content returns an object with consistent shapes or raises
`LoadError`; the file is closed. -/
theorem gro_load_one (ls : List Str) (path : Nat) (fs : FS) :
    ∃ st', runLoadOne loadOne (behOf (Rd.Gro.read ls) ls.length) path fs = (apiOutcome (Rd.Gro.read ls), st') ∧
      IsObjOrLoadError (apiOutcome (Rd.Gro.read ls)) ∧ st'.fs = fs ∧
      ∃ evs, st'.trace = .close :: (evs ++ [.openR]) ∧ LoadEvs evs :=
  reader_load_one _ _ _ _

/-- what a result built from a `_load_vasp_header` return value looks like (`n` = `len(atnums)`, the cell is
`(3, k)`), and that it is fully consistent with a `(3, 3)` cell whenever the constructor accepts it -/
def VaspResult (o : RObj) (n : Nat) : Prop :=
  o.natom = some n ∧ o.atnums = some [n] ∧ (∃ k, o.cellvecs = some [3, k]) ∧
  ((n = 0 ∧ o.atcoords = some [0]) ∨ (0 < n ∧ ∃ m, o.atcoords = some [n, m])) ∧
  (ctorE o = none → o.FullyConsistent n ∧ o.atcoords = some [n, 3] ∧ o.cellvecs = some [3, 3]) ∧
  (ctorE o = none ∨ ctorE o = some .type)

theorem vasp_result_of_header (h : Rd.Vasp.Hdr) (cube : Option (List Nat)) (hs : h.Shaped) :
    VaspResult { h.toObj with cube := cube } h.natom := by
  have hn : ({ h.toObj with cube := cube } : RObj).natom = some h.natom := by
    rcases hs with ⟨h0, hc⟩ | ⟨-, m, hc⟩
    · simp [Rd.Vasp.Hdr.toObj, hc, h0]
    · simp [Rd.Vasp.Hdr.toObj, hc]
  refine ⟨hn, rfl, ⟨h.cellK, rfl⟩, ?_, fun hct => ?_, ctorE_cases _⟩
  · exact hs.imp (fun ⟨h0, hc⟩ => ⟨h0, congrArg some hc⟩) fun ⟨hp, m, hc⟩ => ⟨hp, m, congrArg some hc⟩
  · -- the validators' verdict on `atcoords (·)` and `cellvecs (3, k)` is read off the consistency they imply
    obtain ⟨-, hf, -⟩ := fullyConsistent_of_ctorOk hn (ctorOk_of_ctorE hct) (fun _ hk => nomatch hk)
      (fun _ hk => nomatch hk)
    obtain ⟨hcoords, -, -, -, -, hcell, -⟩ := hf.1
    obtain ⟨m, hm⟩ := hcell _ rfl
    exact ⟨hf, congrArg some (hcoords _ rfl), congrArg (fun k => some [3, k]) (List.cons.inj (List.cons.inj hm).2).1⟩

/-- **poscar_terminates**: on any list of lines the POSCAR reader (coordinate loop bounded by the sum of the
counts it read) returns an object or raises a class of the enumeration, after at most `N + 1` reads. -/
theorem poscar_terminates (T : Tables) (ls : List Str) :
    ((∃ o, (Rd.Vasp.readPoscar T ls).res = .ok o) ∨ (∃ c, (Rd.Vasp.readPoscar T ls).res = .error c)) ∧
    (Rd.Vasp.readPoscar T ls).lineno ≤ ls.length + 1 :=
  ⟨res_cases _, run_lineno_le (good_bind (Rd.Vasp.header_good T) fun _ => good_pure _).fin ls⟩

/-- **poscar_shapes**: a returned POSCAR result has `atnums (n,)`, a cell `(3, k)` and `n` coordinate rows of one
common length (`atcoords (n, m)`, or `(0,)` without atoms); if `IOData(**result)` accepts it, it is fully
consistent: `atcoords (n, 3)`, cell `(3, 3)`; otherwise the constructor raises `TypeError`. -/
theorem poscar_shapes (T : Tables) (ls : List Str) (o : RObj) (h : (Rd.Vasp.readPoscar T ls).res = .ok o) :
    ∃ n, VaspResult o n := by
  obtain ⟨hd, hs, rfl⟩ := run_ok (Rd.Vasp.poscar_form T) h
  exact ⟨hd.natom, vasp_result_of_header hd none hs⟩

/-- **poscar_load_one**: `load_one` on any POSCAR file content returns an object (consistent by `poscar_shapes`)
or raises `LoadError`; the file is closed. -/
theorem poscar_load_one (T : Tables) (ls : List Str) (path : Nat) (fs : FS) :
    ∃ st', runLoadOne loadOne (behOf (Rd.Vasp.readPoscar T ls) ls.length) path fs
        = (apiOutcome (Rd.Vasp.readPoscar T ls), st') ∧
      IsObjOrLoadError (apiOutcome (Rd.Vasp.readPoscar T ls)) ∧ st'.fs = fs ∧
      ∃ evs, st'.trace = .close :: (evs ++ [.openR]) ∧ LoadEvs evs :=
  reader_load_one _ _ _ _

theorem vasp_grid_shapes (T : Tables) (ls : List Str) (o : RObj) (h : (run (Rd.Vasp.loadGrid T) ls).res = .ok o) :
    ∃ n, VaspResult o n ∧ o.cellvecs = some [3, 3] ∧
      ∃ a b c, o.cube = some [a, b, c] ∧
        ∃ k l1 l2, Rd.Vasp.gridPart k l1 = (.ok ([a, b, c], a * b * c), l2) := by
  obtain ⟨hd, g, l1, l2, hs, hg, rfl⟩ := Rd.Vasp.grid_form T (run_eq h)
  obtain ⟨hk, a, b, c, hg1, hg2⟩ := Rd.Vasp.gridPart_ok _ _ _ _ hg
  exact ⟨hd.natom, vasp_result_of_header hd _ hs, congrArg (fun k => some [3, k]) hk, a, b, c, congrArg some hg1,
    hd.cellK, l1, l2, by rw [hg, ← hg1, ← hg2]⟩

/-- **chgcar_terminates**: on any list of lines the CHGCAR reader (coordinate loop bounded by the counts, shape
loop by the remaining lines, value loop by the product of the three dimensions, one word per iteration) returns
an object or raises a class of the enumeration, after at most `N + 2` reads. -/
theorem chgcar_terminates (T : Tables) (ls : List Str) :
    ((∃ o, (Rd.Vasp.readChgcar T ls).res = .ok o) ∨ (∃ c, (Rd.Vasp.readChgcar T ls).res = .error c)) ∧
    (Rd.Vasp.readChgcar T ls).lineno ≤ ls.length + 2 :=
  ⟨res_cases _, Rd.Vasp.loadGrid_bound T ls⟩

/-- **chgcar_shapes**: a returned CHGCAR result has `atnums (n,)`, `n` coordinate rows, a `(3, 3)` cell and grid
data `a × b × c` filled with exactly `a * b * c` values; if the constructor accepts it, `atcoords` is `(n, 3)`. -/
theorem chgcar_shapes (T : Tables) (ls : List Str) (o : RObj) (h : (Rd.Vasp.readChgcar T ls).res = .ok o) :
    ∃ n, VaspResult o n ∧ o.cellvecs = some [3, 3] ∧
      ∃ a b c, o.cube = some [a, b, c] ∧
        ∃ k l1 l2, Rd.Vasp.gridPart k l1 = (.ok ([a, b, c], a * b * c), l2) :=
  vasp_grid_shapes T ls o h

/-- **chgcar_load_one**: `load_one` on any CHGCAR file content returns an object or raises `LoadError`; the file
is closed. -/
theorem chgcar_load_one (T : Tables) (ls : List Str) (path : Nat) (fs : FS) :
    ∃ st', runLoadOne loadOne (behOf (Rd.Vasp.readChgcar T ls) ls.length) path fs
        = (apiOutcome (Rd.Vasp.readChgcar T ls), st') ∧
      IsObjOrLoadError (apiOutcome (Rd.Vasp.readChgcar T ls)) ∧ st'.fs = fs ∧
      ∃ evs, st'.trace = .close :: (evs ++ [.openR]) ∧ LoadEvs evs :=
  reader_load_one _ _ _ _

/-- **locpot_terminates**: as `chgcar_terminates` (the unit conversion after `_load_vasp_grid` cannot raise). -/
theorem locpot_terminates (T : Tables) (ls : List Str) :
    ((∃ o, (Rd.Vasp.readLocpot T ls).res = .ok o) ∨ (∃ c, (Rd.Vasp.readLocpot T ls).res = .error c)) ∧
    (Rd.Vasp.readLocpot T ls).lineno ≤ ls.length + 2 :=
  ⟨res_cases _, Rd.Vasp.loadGrid_bound T ls⟩

/-- **locpot_shapes**: as `chgcar_shapes`. -/
theorem locpot_shapes (T : Tables) (ls : List Str) (o : RObj) (h : (Rd.Vasp.readLocpot T ls).res = .ok o) :
    ∃ n, VaspResult o n ∧ o.cellvecs = some [3, 3] ∧
      ∃ a b c, o.cube = some [a, b, c] ∧
        ∃ k l1 l2, Rd.Vasp.gridPart k l1 = (.ok ([a, b, c], a * b * c), l2) :=
  vasp_grid_shapes T ls o h

/-- **locpot_load_one**: `load_one` on any LOCPOT file content returns an object or raises `LoadError`; the file
is closed. -/
theorem locpot_load_one (T : Tables) (ls : List Str) (path : Nat) (fs : FS) :
    ∃ st', runLoadOne loadOne (behOf (Rd.Vasp.readLocpot T ls) ls.length) path fs
        = (apiOutcome (Rd.Vasp.readLocpot T ls), st') ∧
      IsObjOrLoadError (apiOutcome (Rd.Vasp.readLocpot T ls)) ∧ st'.fs = fs ∧
      ∃ evs, st'.trace = .close :: (evs ++ [.openR]) ∧ LoadEvs evs :=
  reader_load_one _ _ _ _

/-- **poscar_failures**: whenever the POSCAR reader raises, the class is one of `StopIteration` (file too short),
`ValueError` (`float()`, `int()`, ragged rows in `np.array`, `np.dot` shapes), `KeyError` (unknown element symbol),
`IndexError` (`line[0]` of an empty string), `OverflowError` / `MemoryError` (`[n] * count`) — all of them
`Exception`s, which the funnel turns into `LoadError` (`poscar_load_one`). -/
theorem poscar_failures (T : Tables) (ls : List Str) (c : Cls) (h : (Rd.Vasp.readPoscar T ls).res = .error c) :
    c ∈ [Cls.stopIter, .value, .key, .index, .overflow, .memory] :=
  run_error_mem (raises_bind (Rd.Vasp.header_raises T) fun _ => raises_pure _ _) ls c h

/-- **chgcar_failures**: whenever the CHGCAR reader raises, the class is one of those of `poscar_failures`, or
`TypeError` (`np.zeros` with `float64` dimensions, the `Cube` validator on a cell that is not `(3, 3)`), or `NameError`
(`UnboundLocalError`: no line after the header, the shape loop never ran). -/
theorem chgcar_failures (T : Tables) (ls : List Str) (c : Cls) (h : (Rd.Vasp.readChgcar T ls).res = .error c) :
    c ∈ [Cls.stopIter, .value, .key, .index, .overflow, .memory, .type, .name] :=
  run_error_mem (Rd.Vasp.grid_raises T) ls c h

/-- **locpot_failures**: as `chgcar_failures`. -/
theorem locpot_failures (T : Tables) (ls : List Str) (c : Cls) (h : (Rd.Vasp.readLocpot T ls).res = .error c) :
    c ∈ [Cls.stopIter, .value, .key, .index, .overflow, .memory, .type, .name] :=
  run_error_mem (Rd.Vasp.grid_raises T) ls c h

/-- **crd_terminates**: on any list of lines the CRD reader (title loop: one line per iteration, the end of the
file ends it with `LoadError`; atom loop: `natom` iterations, one line each) returns an object or raises a class of
the enumeration, after at most `N + 1` reads. -/
theorem crd_terminates (ls : List Str) :
    ((∃ o, (Rd.Crd.read ls).res = .ok o) ∨ (∃ c, (Rd.Crd.read ls).res = .error c)) ∧
    (Rd.Crd.read ls).lineno ≤ ls.length + 1 :=
  ⟨res_cases _, run_lineno_le Rd.Crd.crd_good.fin ls⟩

/-- **crd_shapes**: a returned CRD result has `atcoords (natom, 3)`, `atmasses (natom,)`, the three `atffparams`
arrays (`attypes`, `resnames`, `resnums`) and the two per-atom arrays of `extra` (`segid`, `resid`) of length
`natom` — `natom` being the count read from the file — and passes the constructor. -/
theorem crd_shapes (ls : List Str) (o : RObj) (h : (Rd.Crd.read ls).res = .ok o) :
    ∃ n, o.natom = some n ∧ o.FullyConsistent n ∧ ctorE o = none ∧
      o.atcoords = some [n, 3] ∧ o.atmasses = some [n] ∧ o.atffparams = [n, n, n] ∧ o.extraAtom = [n, n] := by
  obtain ⟨n, ho⟩ := run_ok Rd.Crd.crd_form h
  obtain ⟨h1, h2, h3⟩ :=
    fullyConsistent_of_ctorOk (o := o) (n := n) (by simp [ho]) (by simp [ho]) (by simp [ho]) (by simp [ho])
  subst ho
  exact ⟨n, h1, h2, h3, rfl, rfl, rfl, rfl⟩

/-- **crd_reads**: the number of atoms of a returned CRD result is the value of the atom-count line (the first
line after the title section's bare `*`), and all `natom` atom lines were read: at least `natom + 2` reads. -/
theorem crd_reads (ls : List Str) (o : RObj) (h : (Rd.Crd.read ls).res = .ok o) :
    ∃ n, o.natom = some n ∧ n + 2 ≤ (Rd.Crd.read ls).lineno := by
  have hm := run_eq h
  show ∃ n, o.natom = some n ∧ n + 2 ≤ (Rd.Crd.loadOne ⟨ls, 0⟩).2.lineno
  generalize (Rd.Crd.loadOne ⟨ls, 0⟩).2 = l' at hm ⊢
  obtain ⟨_, l1, ht, hm⟩ := bind_ok hm
  obtain ⟨_, l2, hn, hm⟩ := bind_ok hm
  obtain ⟨natom, l3, hc, hm⟩ := bind_ok hm
  obtain ⟨_, l4, ha, hm⟩ := bind_ok hm
  obtain ⟨_, l5, hr, hm⟩ := bind_ok hm
  obtain ⟨rfl, rfl⟩ := pure_ok hm
  obtain ⟨-, rfl⟩ := liftE_ok hc
  obtain ⟨-, rfl⟩ := liftE_ok ha
  have h1 := Rd.Crd.titleSec_reads ht
  have h2 := nextLine_ok hn
  have h3 := repeatN_reads _ hr
  exact ⟨natom.toNat, rfl, by omega⟩

/-- **crd_load_one**: `load_one` on any CRD file content returns an object with consistent shapes or raises
`LoadError`; the file is closed. -/
theorem crd_load_one (ls : List Str) (path : Nat) (fs : FS) :
    ∃ st', runLoadOne loadOne (behOf (Rd.Crd.read ls) ls.length) path fs = (apiOutcome (Rd.Crd.read ls), st') ∧
      IsObjOrLoadError (apiOutcome (Rd.Crd.read ls)) ∧ st'.fs = fs ∧
      ∃ evs, st'.trace = .close :: (evs ++ [.openR]) ∧ LoadEvs evs :=
  reader_load_one _ _ _ _

/-- **crd_failures**: whenever the CRD reader raises, the class is one of `LoadError` (no bare `*` before the end
of the file; an atom-count line that is not `isdigit()`), `StopIteration` (no count line, fewer atom lines than the
count), `ValueError` (`int()` of an `isdigit()` string that is not decimal, `int()`/`float()` of a word, `np.zeros`
beyond `intp`), `MemoryError` (`np.zeros`), `IndexError` (an atom line with fewer than ten words) — all of them
`Exception`s, which the funnel turns into `LoadError` (`crd_load_one`). -/
theorem crd_failures (ls : List Str) (c : Cls) (h : (Rd.Crd.read ls).res = .error c) :
    c ∈ [Cls.load, .stopIter, .value, .memory, .index] :=
  run_error_mem Rd.Crd.crd_raises ls c h

/-- a CRD object always went through the constructor unharmed: the API returns it -/
theorem crd_ok_returns (ls : List Str) (o : RObj) (h : (Rd.Crd.read ls).res = .ok o) :
    apiOutcome (Rd.Crd.read ls) = .ret := by
  obtain ⟨n, -, -, hc, -⟩ := crd_shapes ls o h
  exact (reader_load_one_ret _).mpr ⟨o, h, ctorOk_of_ctorE hc⟩

/-! ### non-vacuity (the generated tables, evaluated by the kernel) -/

example : (Rd.Xyz.read Gen.Layouts.tables
    [['2','\n'], ['t','\n'], ['H',' ','0',' ','0',' ','0','\n'], ['h',' ','0',' ','0',' ','1','\n']]).res
    = .ok { atnums := some [2], atcoords := some [2, 3], hasTitle := true } := by decide +kernel
example : (Rd.Xyz.read Gen.Layouts.tables [['2','\n'], ['t','\n'], ['H',' ','0',' ','0',' ','0','\n']])
    = ⟨.error .stopIter, 4⟩ := by decide +kernel
example : (Rd.Xyz.read Gen.Layouts.tables [['2','\n'], ['t','\n'], ['Q',' ','0',' ','0',' ','0','\n']])
    = ⟨.error .key, 3⟩ := by decide +kernel
example : (Rd.Xyz.read Gen.Layouts.tables [['-','1','\n'], ['t','\n']]) = ⟨.error .value, 2⟩ := by decide +kernel
example : apiOutcome (Rd.Xyz.read Gen.Layouts.tables [['2','\n'], ['t','\n']]) = .raised .load (some 3) := by
  decide +kernel

def vaspHeaderEx : List Str :=
  [['t','\n'], ['1','.','0','\n'], ['4',' ','0',' ','0','\n'], ['0',' ','4',' ','0','\n'], ['0',' ','0',' ','4','\n'],
   ['O',' ','H','\n'], ['1',' ','2','\n'], ['S','e','l','\n'], ['D','i','r','e','c','t','\n'],
   ['0',' ','0',' ','0','\n'], ['.','5',' ','0',' ','0',' ','T','\n'], ['0',' ','.','5',' ','0','\n']]

example : Rd.Vasp.readPoscar Gen.Layouts.tables vaspHeaderEx
    = ⟨.ok { atnums := some [3], atcoords := some [3, 3], cellvecs := some [3, 3], hasTitle := true }, 12⟩ := by
  decide +kernel
example : Rd.Vasp.zsum Gen.Layouts.tables vaspHeaderEx = some 10 := by decide +kernel
example : apiOutcome (Rd.Vasp.readPoscar Gen.Layouts.tables vaspHeaderEx) = .ret := by decide +kernel
example : Rd.Vasp.readChgcar Gen.Layouts.tables
      (vaspHeaderEx ++ [['\n'], ['2',' ','1',' ','2','\n'], ['1',' ','2',' ','3','\n'], ['4','e','0',' ','x','\n']])
    = ⟨.ok { atnums := some [3], atcoords := some [3, 3], cellvecs := some [3, 3], cube := some [2, 1, 2],
             hasTitle := true }, 16⟩ := by decide +kernel
/-- a truncated grid: `StopIteration` at line `N + 1` -/
example : Rd.Vasp.readLocpot Gen.Layouts.tables (vaspHeaderEx ++ [['\n'], ['2',' ','1',' ','2','\n'], ['1','\n']])
    = ⟨.error .stopIter, 16⟩ := by decide +kernel
/-- no line after the header: the shape loop never runs, `shape` is unbound -/
example : Rd.Vasp.readChgcar Gen.Layouts.tables vaspHeaderEx = ⟨.error .name, 13⟩ := by decide +kernel
/-- the bound `N + 2` is attained: the last line has four integers, the shape loop ends at the end of the file and
the value loop reads once more -/
example : Rd.Vasp.readChgcar Gen.Layouts.tables (vaspHeaderEx ++ [['1',' ','1',' ','1',' ','1','\n']])
    = ⟨.error .stopIter, 15⟩ := by decide +kernel
/-- a Cartesian atom line with two numbers: the reader returns, the constructor refuses (`LoadError`) -/
example : apiOutcome (Rd.Vasp.readPoscar Gen.Layouts.tables
      [['t','\n'], ['1','\n'], ['1',' ','0',' ','0','\n'], ['0',' ','1',' ','0','\n'], ['0',' ','0',' ','1','\n'],
       ['H','\n'], ['1','\n'], ['C','\n'], ['0',' ','0','\n']]) = .raised .load (some 9) := by decide +kernel

/-- each class of `poscar_failures` is attained: unknown symbol, empty mode line, huge counts -/
example : Rd.Vasp.readPoscar Gen.Layouts.tables (vaspHeaderEx.take 5 ++ [['o','\n']]) = ⟨.error .key, 6⟩ := by
  decide +kernel
example : Rd.Vasp.readPoscar Gen.Layouts.tables (vaspHeaderEx.take 7 ++ [[]]) = ⟨.error .index, 8⟩ := by
  decide +kernel
example : Rd.Vasp.readPoscar Gen.Layouts.tables
    (vaspHeaderEx.take 6 ++ [['9','9','9','9','9','9','9','9','9','9','9','9','9','9','9','9','9','9','9','9','\n']])
    = ⟨.error .overflow, 7⟩ := by decide +kernel
example : Rd.Vasp.readPoscar Gen.Layouts.tables
    (vaspHeaderEx.take 6 ++ [['3','0','0','0','0','0','0','0','0','0','\n']]) = ⟨.error .memory, 7⟩ := by
  decide +kernel
/-- a cell line with two numbers: `TypeError` from the `Cube` validator in the grid formats -/
example : Rd.Vasp.readChgcar Gen.Layouts.tables
    ([['t','\n'], ['1','\n'], ['1',' ','0','\n'], ['0',' ','1','\n'], ['0',' ','0','\n'], ['H','\n'], ['1','\n'],
      ['C','\n'], ['0',' ','0',' ','0','\n'], ['1',' ','1',' ','1','\n'], ['5','\n']]) = ⟨.error .type, 11⟩ := by
  decide +kernel

/-- a CRD file of two atoms (two title lines, a line without `*` that is skipped, the bare `*`) -/
def crdEx : List Str :=
  [['*',' ','t','\n'], ['x','\n'], ['*','\n'], [' ','2','\n'],
   ['1',' ','1',' ','T','H','R',' ','N',' ','1','.','5',' ','-','2',' ','3','e','0',' ','A',' ','1',' ','0','.','0','\n'],
   ['2',' ','1',' ','T','H','R',' ','C',' ','0',' ','0',' ','0',' ','A',' ','1',' ','1','2','\n']]
example : Rd.Crd.read crdEx
    = ⟨.ok { atcoords := some [2, 3], atmasses := some [2], atffparams := [2, 2, 2], extraAtom := [2, 2],
             hasTitle := true, hasAtffparams := true, hasExtra := true }, 6⟩ := by decide +kernel
example : apiOutcome (Rd.Crd.read crdEx) = .ret := by decide +kernel
example : Rd.Crd.read (crdEx.take 5) = ⟨.error .stopIter, 6⟩ := by decide +kernel
example : Rd.Crd.read (crdEx.take 3) = ⟨.error .stopIter, 4⟩ := by decide +kernel
example : Rd.Crd.read (crdEx.take 2) = ⟨.error .load, 3⟩ := by decide +kernel
example : apiOutcome (Rd.Crd.read (crdEx.take 2)) = .raised .load none := by decide +kernel
example : Rd.Crd.read (crdEx.take 3 ++ [['x','\n']]) = ⟨.error .load, 4⟩ := by decide +kernel
example : Rd.Crd.read (crdEx.take 3 ++ [['\u00b2','\n']]) = ⟨.error .value, 4⟩ := by decide +kernel
example : Rd.Crd.read (crdEx.take 3 ++ [['1','\n'], ['1',' ','1',' ','T','H','R','\n']]) = ⟨.error .index, 5⟩ := by
  decide +kernel
example : Rd.Crd.read (crdEx.take 3 ++ [['3','0','0','0','0','0','0','0','0','0','\n']]) = ⟨.error .memory, 4⟩ := by
  decide +kernel
example : apiOutcome (Rd.Crd.read (crdEx.take 5)) = .raised .load (some 6) := by decide +kernel

end Iodata.Props.C07Readers
