/-
C01 — wavefunction conversion never silently changes the wavefunction.

Property theorems only (helpers: `Iodata/Lemmas/Wf.lean`, `Iodata/Lemmas/WfRead.lean`; models:
`Iodata/Model/Wf.lean`, `Iodata/Model/WfRead.lean`).
`den cv shells coeffs κ` is the coefficient an orbital gives to the normalised primitive `κ`;
equal `den` means the same function of space.  The theorems quantify over *all* shell lists
(any order, any centres), all convention dictionaries and all contraction lengths; they are
proved by induction over the shell list, not by enumeration.

Full statement (F):  `den (load_F (dump_F o)) = den o` for the five formats, densities preserved as
bilinear forms, `dump_F o` succeeds ⇒ `load_F` succeeds.
`gen_variant`, `wfn_current`, `wfx_current`, `molden_current`, `mkl_current`, `mkl_beta_irreps_current` and
`fchk_density_current` mention the flags regenerated from the source (`Iodata/Gen/Wf.lean`) and fail when a repair
is reverted there.  `molden_roundtrip_current` and `mkl_roundtrip_current` mention no flag: they are tied to the
regenerated header and convention tables, and speak of the file models of `Model/WfRead.lean`, which are written
for the repaired writers.  The `_violated` witnesses are true statements about the old variants of the model.
Not proved here: text scanning (column widths, number syntax), occupations/energies/spin bookkeeping and the
Molden/Molekel readers' normalisation repair (`_fix_molden_from_buggy_codes`, C05) — covered by the
correspondence and the search.
-/
import Iodata.Lemmas.Wf
import Iodata.Lemmas.WfRead
import Iodata.Gen.Conventions
import Iodata.Gen.Wf

set_option linter.unusedSectionVars false
set_option linter.unusedSimpArgs false

namespace Iodata.Props.C01
open Iodata.Conv Iodata.Wf

/-- (all formats) Re-expressing the coefficients in other conventions with `convert_conventions`
does not change what the orbital denotes — for every shell list, every pair of convention
dictionaries that name the same functions, every coefficient vector.  (From C10's key lemma.) -/
theorem den_convert (cv1 cv2 : Cv) (shells : List Shell)
    (hc : ∀ s ∈ shells, Compatible (cv1 s.key) (cv2 s.key)) (coeffs : List Int) (κ : PKey) :
    den cv2 shells (convert cv1 cv2 shells coeffs) κ = den cv1 shells coeffs κ :=
  den_convert_shells cv1 cv2 shells hc coeffs κ

/-- The variant of every writer for which the full theorems below are stated: scales in target order,
Molden rows follow the sort, Molekel beta irreps after `norba`, Molekel `$$` per centre, FCHK densities
converted.  `Iodata/Gen/Wf.lean` is regenerated from the source on every run: reverting one of the repairs
flips a flag and this obligation (and every `_current` theorem that mentions the flag) fails. -/
def currentFlags : List Bool := [false, false, true, false, true, true]

theorem gen_variant :
    [Iodata.Gen.Wf.wfnScalesFromSource, Iodata.Gen.Wf.wfxScalesFromSource, Iodata.Gen.Wf.moldenRowsFollowSort,
     Iodata.Gen.Wf.mklBetaIrrepsUseNorbb, Iodata.Gen.Wf.mklSeparatorsPerCentre,
     Iodata.Gen.Wf.fchkDensitiesConverted] = currentFlags := by decide +kernel

/-- The writers call `convert_conventions` once for the whole basis and index the coefficient matrix with
the returned global permutation (`coeffs[permutation] * signs`).  For every shell list and pair of tables: if
that call succeeds, the global signed permutation acts exactly like the shell-by-shell conversion
(`den_convert`), every shell's conventions are compatible, and the basis sizes agree. -/
theorem convert_global (t1 t2 : Table) (shells : List Shell) (r : List (Nat × Int))
    (h : convBasis t1 t2 (keysOf shells) false = .ok r) :
    (∀ s ∈ shells, Compatible (cvOf t1 s.key) (cvOf t2 s.key)) ∧
    r.length = nfun (cvOf t2) shells ∧ nfun (cvOf t1) shells = nfun (cvOf t2) shells ∧
    ∀ (coeffs : List Int), apply r coeffs = convert (cvOf t1) (cvOf t2) shells coeffs :=
  convBasis_apply t1 t2 shells r h

/-- `den_convert` at the basis level: whenever `convert_conventions` succeeds, applying its result to the
whole coefficient vector preserves the denotation (no hypothesis on the shells or conventions). -/
theorem den_convert_basis (t1 t2 : Table) (shells : List Shell) (r : List (Nat × Int))
    (h : convBasis t1 t2 (keysOf shells) false = .ok r) (coeffs : List Int) (κ : PKey) :
    den (cvOf t2) shells (apply r coeffs) κ = den (cvOf t1) shells coeffs κ := by
  obtain ⟨hc, _, _, happ⟩ := convBasis_apply t1 t2 shells r h
  rw [happ, den_convert_shells _ _ shells hc]

theorem keysOf_segFrom (g : GShell) : ∀ (ks : List Key) (i : Nat), keysOf (segFrom g i ks) = ks
  | [], _ => rfl
  | k :: ks, i => by
    have := keysOf_segFrom g ks (i + 1)
    simp only [keysOf, segFrom, List.map_cons, Shell.key] at this ⊢
    rw [this]

/-- the key list of a basis with generalized contractions is the key list of its segmentation
(`convert_to_segmented` leaves the order of the basis functions alone) -/
theorem keysOf_segmentAll : ∀ (gs : List GShell), keysOf (segmentAll gs) = gkeys gs
  | [] => rfl
  | g :: gs => by
    have ih := keysOf_segmentAll gs
    simp only [keysOf, segmentAll, gkeys, List.flatMap_cons, List.map_append] at ih ⊢
    rw [ih]
    congr 1
    exact keysOf_segFrom g g.cons 0

/-- … with generalized contractions (SP shells kept by FCHK, or any shell before `prepare_segmented`):
the conversion computed on the generalized shells preserves the denotation. -/
theorem gden_convert_basis (t1 t2 : Table) (gs : List GShell) (r : List (Nat × Int))
    (h : convBasis t1 t2 (gkeys gs) false = .ok r) (coeffs : List Int) (κ : PKey) :
    gden (cvOf t2) gs (apply r coeffs) κ = gden (cvOf t1) gs coeffs κ := by
  unfold gden
  rw [← keysOf_segmentAll] at h
  exact den_convert_basis t1 t2 (segmentAll gs) r h coeffs κ

/-- WFN/WFX writer, scales taken in the order of the *target* conventions: the file denotes the
same function.  `fileDen` is in un-normalised primitives, hence the factor `N`. Holds for every
shell order, contraction length, source convention and every (even zero) scale function. -/
theorem wfn_dump_den (N : Nat → Label → Int) (cv1 cvW : Cv) : ∀ (shells : List Shell),
    (∀ s ∈ shells, s.kind = 'c' ∧ Pos (cvW s.key) ∧ Compatible (cv1 s.key) (cvW s.key)) →
    ∀ (coeffs : List Int) (κ : PKey),
      fileDen (wfnDump false N cv1 cvW shells coeffs) κ = den cv1 shells coeffs κ * N κ.2.1 κ.2.2.2.2
  | [], _, _, _ => by simp [wfnDump, fileDen, den]
  | s :: ss, h, coeffs, κ => by
    obtain ⟨hk, hp, hc⟩ := h s (by simp)
    simp only [wfnDump, den]
    rw [fileDen_append, fileDen_wfnShell N _ _ s _ hk hp hc,
      wfn_dump_den N cv1 cvW ss (fun t ht => h t (by simp [ht])), Int.add_mul]

/-- WFN/WFX round trip (writer with target-order scales, reader `build_obasis` + division by the
scales): the reloaded object denotes the same function, for all shell lists / conventions /
contractions and every nowhere-zero scale function. -/
theorem wfn_roundtrip (N : Nat → Label → Int) (hN : ∀ e l, N e l ≠ 0) (cv1 cvW : Cv) : ∀ (shells : List Shell),
    (∀ s ∈ shells, s.kind = 'c' ∧ Pos (cvW s.key) ∧ Compatible (cv1 s.key) (cvW s.key)) →
    ∀ (coeffs : List Int) (κ : PKey),
      den cvW (wfnLoad N cvW (wfnDump false N cv1 cvW shells coeffs)).1
          (wfnLoad N cvW (wfnDump false N cv1 cvW shells coeffs)).2 κ = den cv1 shells coeffs κ := by
  intro shells h coeffs κ
  rw [den_wfnLoad]
  induction shells generalizing coeffs with
  | nil => simp [wfnDump, loadDen, den]
  | cons s ss ih =>
    obtain ⟨hk, hp, hc⟩ := h s (by simp)
    simp only [wfnDump, den]
    have hkey : cvW (s.l, 'c') = cvW s.key := by simp [Shell.key, hk]
    rw [loadDen_append, loadDen_wfnShell N hN cvW _ _ s _ hk hp hc hkey,
      ih (fun t ht => h t (by simp [ht]))]

/-- … and with the conventions step: dumping from conventions `cv1` and reloading gives the same denotation as
first converting to the WFN conventions. -/
theorem wfn_roundtrip_conv (N : Nat → Label → Int) (hN : ∀ e l, N e l ≠ 0) (cv1 cvW : Cv) (shells : List Shell)
    (h : ∀ s ∈ shells, s.kind = 'c' ∧ Pos (cvW s.key) ∧ Compatible (cv1 s.key) (cvW s.key))
    (coeffs : List Int) (κ : PKey) :
    den cvW (wfnLoad N cvW (wfnDump false N cv1 cvW shells coeffs)).1
        (wfnLoad N cvW (wfnDump false N cv1 cvW shells coeffs)).2 κ
      = den cvW shells (convert cv1 cvW shells coeffs) κ := by
  rw [wfn_roundtrip N hN cv1 cvW shells h, den_convert cv1 cvW shells (fun s hs => (h s hs).2.2)]

/-- The WFN writer *as the source implements it now* (flag read off the real writer) writes a file
denoting the same function and IOData's reader returns it. -/
theorem wfn_current (N : Nat → Label → Int) (hN : ∀ e l, N e l ≠ 0) (cv1 cvW : Cv) (shells : List Shell)
    (h : ∀ s ∈ shells, s.kind = 'c' ∧ Pos (cvW s.key) ∧ Compatible (cv1 s.key) (cvW s.key))
    (coeffs : List Int) (κ : PKey) :
    fileDen (wfnDump Iodata.Gen.Wf.wfnScalesFromSource N cv1 cvW shells coeffs) κ
        = den cv1 shells coeffs κ * N κ.2.1 κ.2.2.2.2 ∧
    den cvW (wfnLoad N cvW (wfnDump Iodata.Gen.Wf.wfnScalesFromSource N cv1 cvW shells coeffs)).1
        (wfnLoad N cvW (wfnDump Iodata.Gen.Wf.wfnScalesFromSource N cv1 cvW shells coeffs)).2 κ
      = den cv1 shells coeffs κ :=
  ⟨wfn_dump_den N cv1 cvW shells h coeffs κ, wfn_roundtrip N hN cv1 cvW shells h coeffs κ⟩

/-- … and the WFX writer. -/
theorem wfx_current (N : Nat → Label → Int) (hN : ∀ e l, N e l ≠ 0) (cv1 cvW : Cv) (shells : List Shell)
    (h : ∀ s ∈ shells, s.kind = 'c' ∧ Pos (cvW s.key) ∧ Compatible (cv1 s.key) (cvW s.key))
    (coeffs : List Int) (κ : PKey) :
    fileDen (wfnDump Iodata.Gen.Wf.wfxScalesFromSource N cv1 cvW shells coeffs) κ
        = den cv1 shells coeffs κ * N κ.2.1 κ.2.2.2.2 ∧
    den cvW (wfnLoad N cvW (wfnDump Iodata.Gen.Wf.wfxScalesFromSource N cv1 cvW shells coeffs)).1
        (wfnLoad N cvW (wfnDump Iodata.Gen.Wf.wfxScalesFromSource N cv1 cvW shells coeffs)).2 κ
      = den cv1 shells coeffs κ :=
  ⟨wfn_dump_den N cv1 cvW shells h coeffs κ, wfn_roundtrip N hN cv1 cvW shells h coeffs κ⟩

/-! #### historical (before 88dbaff / 675eddd): scales in the order of the source conventions -/

def h2d : List (Bool × Label) := plus [['x','x'],['x','y'],['x','z'],['y','y'],['y','z'],['z','z']]
def wfnd : List (Bool × Label) := plus [['x','x'],['y','y'],['z','z'],['x','y'],['x','z'],['y','z']]
/-- a stand-in for `N²·const`: 1 for `xx, yy, zz`, 3 for `xy, xz, yz` (the real ratio is √3) -/
def N3 (_ : Nat) (l : Label) : Int := if l = ['x','x'] ∨ l = ['y','y'] ∨ l = ['z','z'] then 1 else 3
def dShell : Shell := { center := 0, l := 2, kind := 'c', prims := [(0, 1)] }

/-- `_violated` (repaired defect, old variant `fromSrc = true`): one Cartesian d shell in HORTON2 order (`xx xy xz yy yz zz`), one primitive,
coefficients 1..6: the file written with source-order scales gives `yy` the coefficient
`4·N(xy)` instead of `4·N(yy)`. -/
theorem wfn_dump_source_violated :
    fileDen (wfnDump true N3 (fun _ => h2d) (fun _ => wfnd) [dShell] [1,2,3,4,5,6]) (0, 0, 2, 'c', ['y','y'])
      ≠ den (fun _ => h2d) [dShell] [1,2,3,4,5,6] (0, 0, 2, 'c', ['y','y']) * N3 0 ['y','y'] := by
  decide +kernel

/-- … and after IOData's own reader the orbital has changed. -/
theorem wfn_roundtrip_source_violated :
    den (fun _ => wfnd) (wfnLoad N3 (fun _ => wfnd) (wfnDump true N3 (fun _ => h2d) (fun _ => wfnd) [dShell] [1,2,3,4,5,6])).1
      (wfnLoad N3 (fun _ => wfnd) (wfnDump true N3 (fun _ => h2d) (fun _ => wfnd) [dShell] [1,2,3,4,5,6])).2
      (0, 0, 2, 'c', ['y','y'])
    ≠ den (fun _ => h2d) [dShell] [1,2,3,4,5,6] (0, 0, 2, 'c', ['y','y']) := by
  decide +kernel

/-- (historical) with source-order scales the writer was right on the sub-domain where the source
conventions list the functions in the same order as the target's (signs may differ). -/
theorem hist_wfn_source_same_order (N : Nat → Label → Int) (cv1 cvW : Cv) (shells : List Shell)
    (hsame : ∀ s ∈ shells, labels (cv1 s.key) = labels (cvW s.key)) (coeffs : List Int) :
    wfnDump true N cv1 cvW shells coeffs = wfnDump false N cv1 cvW shells coeffs := by
  induction shells generalizing coeffs with
  | nil => simp [wfnDump]
  | cons s ss ih =>
    simp only [wfnDump]
    rw [ih (fun t ht => hsame t (by simp [ht]))]
    congr 1
    simp [wfnShell, hsame s (by simp)]

theorem insert_head (s : Shell) (ts : List Shell) (h : ∀ t ∈ ts, s.center ≤ t.center) :
    insertByCenter s ts = s :: ts := by
  cases ts with
  | nil => rfl
  | cons t ts => simp [insertByCenter, h t (by simp)]

/-- (historical, writer before f1785bb) when the shells are already ordered by centre the old Molden writer
`moldenDump` denoted the same orbitals (any conventions, any contraction). -/
theorem hist_molden_sorted_input (cv1 cvM : Cv) (shells : List Shell)
    (hsorted : shells.Pairwise (fun a b => a.center ≤ b.center))
    (hc : ∀ s ∈ shells, Compatible (cv1 s.key) (cvM s.key)) (coeffs : List Int) (κ : PKey) :
    den cvM (moldenDump cv1 cvM shells coeffs).1 (moldenDump cv1 cvM shells coeffs).2 κ
      = den cv1 shells coeffs κ := by
  have hs : sortByCenter shells = shells := by
    induction shells with
    | nil => rfl
    | cons s ss ih =>
      have hp := List.pairwise_cons.mp hsorted
      simp only [sortByCenter]
      rw [ih hp.2 (fun t ht => hc t (by simp [ht]))]
      exact insert_head s ss hp.1
  simp only [moldenDump, hs]
  exact den_convert cv1 cvM shells hc coeffs κ

def sconv : List (Bool × Label) := plus [['1']]
def sOn (c : Nat) : Shell := { center := c, l := 0, kind := 'c', prims := [(c, 1)] }

/-- `_violated` (repaired defect, old variant `moldenDump`): two s shells stored as (centre 1, centre 0) with coefficients (1, 2): the Molden
file lists centre 0 first but keeps the rows, so centre 0 gets 1 instead of 2. -/
theorem molden_violated :
    den (fun _ => sconv) (moldenDump (fun _ => sconv) (fun _ => sconv) [sOn 1, sOn 0] [1, 2]).1
        (moldenDump (fun _ => sconv) (fun _ => sconv) [sOn 1, sOn 0] [1, 2]).2 (0, 0, 0, 'c', ['1'])
      ≠ den (fun _ => sconv) [sOn 1, sOn 0] [1, 2] (0, 0, 0, 'c', ['1']) := by
  decide +kernel

/-- The Molden writer as it is now (`moldenDumpSorted`: the coefficient blocks follow the shells sorted by
centre) — full statement: for every shell order, conventions and contraction the file lists the shells
sorted by centre and denotes the same orbitals. -/
theorem molden_sorted_den (cv1 cvM : Cv) (shells : List Shell)
    (hc : ∀ s ∈ shells, Compatible (cv1 s.key) (cvM s.key)) (coeffs : List Int) (κ : PKey) :
    (moldenDumpSorted cv1 cvM shells coeffs).1 = sortByCenter shells ∧
    den cvM (moldenDumpSorted cv1 cvM shells coeffs).1 (moldenDumpSorted cv1 cvM shells coeffs).2 κ
      = den cv1 shells coeffs κ := by
  obtain ⟨hfst, _, hden⟩ := sortedRows_spec cv1 cvM shells hc coeffs
  exact ⟨hfst, by simp only [moldenDumpSorted, hfst]; exact hden κ⟩

/-- The Molden coefficient pipeline *as the source implements it now* (flag read off the real writer). -/
theorem molden_current (cv1 cvM : Cv) (shells : List Shell)
    (hc : ∀ s ∈ shells, Compatible (cv1 s.key) (cvM s.key)) (coeffs : List Int) (κ : PKey) :
    (moldenVariant Iodata.Gen.Wf.moldenRowsFollowSort cv1 cvM shells coeffs).1 = sortByCenter shells ∧
    den cvM (moldenVariant Iodata.Gen.Wf.moldenRowsFollowSort cv1 cvM shells coeffs).1
        (moldenVariant Iodata.Gen.Wf.moldenRowsFollowSort cv1 cvM shells coeffs).2 κ
      = den cv1 shells coeffs κ :=
  molden_sorted_den cv1 cvM shells hc coeffs κ

/-- Molden round trip at the structural level, for every header table, pair of convention tables, shell list
(any order) and coefficient vector: if the writer (header tags from the table, `[GTO]` centre blocks of the
sorted shells, `[MO]` rows `coeffs[permutation[rows]] * signs[rows]`) produces a file and the tags say what the
kinds are, then IOData's reader accepts the file, returns the shells sorted by centre, and the orbital denotes
the same function. -/
theorem molden_roundtrip (tab : HdrTable) (t1 tM : Table) (shells : List Shell) (coeffs : List Int)
    (f : MoldenFile) (hw : moldenWrite tab t1 tM shells coeffs = some f)
    (hkind : ∀ s ∈ shells, s.kind = if s.l ∈ pureOf f.tags then 'p' else 'c') :
    ∃ co, moldenLoad (cvOf tM) f = some (sortByCenter shells, co) ∧
      ∀ κ, den (cvOf tM) (sortByCenter shells) co κ = den (cvOf t1) shells coeffs κ :=
  Iodata.Wf.molden_roundtrip tab t1 tM shells coeffs f hw hkind

/-- The header table read off the real Molden writer is right: for every combination of d/f/g/h kinds for
which the writer produces a file, IOData's reader declares pure exactly the angular momenta that are pure
(this is where `[5D10F]`, `[7F]`, `[9G]` matter; a refused combination is allowed). -/
theorem molden_header_ok : Iodata.Gen.Wf.moldenHeader.all hdrEntryOK = true := by decide +kernel

/-- Every key of the Molden and Molekel convention tables has `l ≤ 5`, kind Cartesian or pure, and s/p
shells Cartesian. -/
theorem molden_keys_ok : Iodata.Gen.Conventions.molden.all (fun e => keyOK e.1) = true
    ∧ Iodata.Gen.Conventions.molekel.all (fun e => keyOK e.1) = true := by decide +kernel

/-- Molden round trip for the code as it is now — the header table and the convention table are the ones
regenerated from the source — without any hypothesis on the kinds: whatever object the real writer logic
accepts (any source conventions table, shell order, centres), IOData reads the file back and every orbital
denotes the same function. -/
theorem molden_roundtrip_current (t1 : Table) (shells : List Shell) (coeffs : List Int) (f : MoldenFile)
    (hw : moldenWrite Iodata.Gen.Wf.moldenHeader t1 Iodata.Gen.Conventions.molden shells coeffs = some f) :
    ∃ co, moldenLoad (cvOf Iodata.Gen.Conventions.molden) f = some (sortByCenter shells, co) ∧
      ∀ κ, den (cvOf Iodata.Gen.Conventions.molden) (sortByCenter shells) co κ = den (cvOf t1) shells coeffs κ := by
  obtain ⟨hmix, hh, r, hr, _⟩ := moldenWrite_some hw
  apply Iodata.Wf.molden_roundtrip _ t1 _ shells coeffs f hw
  apply kinds_of_header _ molden_header_ok shells hmix f.tags hh
  intro s hs
  obtain ⟨c, hc⟩ := convBasis_mem t1 _ (keysOf shells) r hr s.key (List.mem_map.mpr ⟨s, hs, rfl⟩)
  exact List.all_eq_true.mp molden_keys_ok.1 _ hc

/-- centres visited in ascending order without skipping one (the first may be 0 or 1) -/
def contigFrom (last : Nat) : List Nat → Bool
  | [] => true
  | c :: cs => (c == last || c == last + 1) && contigFrom c cs

theorem mklCentersFrom_contig : ∀ (cs : List Nat) (last : Nat), contigFrom last cs = true →
    mklCentersFrom last last cs = cs
  | [], _, _ => rfl
  | c :: cs, last, h => by
    simp only [contigFrom, Bool.and_eq_true, Bool.or_eq_true, beq_iff_eq] at h
    obtain ⟨h1, h2⟩ := h
    simp only [mklCentersFrom]
    rcases h1 with rfl | rfl
    · simp [mklCentersFrom_contig cs c h2]
    · have : last + 1 ≠ last := by omega
      simp [this, mklCentersFrom_contig cs (last + 1) h2]

theorem recenter_self : ∀ (shells : List Shell), recenter shells (shells.map (·.center)) = shells
  | [] => rfl
  | s :: ss => by
    have := recenter_self ss
    simp only [recenter, List.map_cons, List.zip_cons_cons] at this ⊢
    rw [this]

/-- (historical, writer before 2b71ddf) when the shells visit the centres in ascending order without skipping
one, the old Molekel writer `mklDump` denoted the same orbitals. -/
theorem hist_mkl_contiguous (cv1 cvM : Cv) (shells : List Shell)
    (hcontig : contigFrom 0 (shells.map (·.center)) = true)
    (hc : ∀ s ∈ shells, Compatible (cv1 s.key) (cvM s.key)) (coeffs : List Int) (κ : PKey) :
    den cvM (mklDump cv1 cvM shells coeffs).1 (mklDump cv1 cvM shells coeffs).2 κ = den cv1 shells coeffs κ := by
  simp only [mklDump, mklCenters, mklCentersFrom_contig _ 0 hcontig, recenter_self]
  exact den_convert cv1 cvM shells hc coeffs κ

/-- The Molekel writer as it is now lists the shells sorted by centre with one `$$` per centre passed (so the
reader's count equals the centre index) and lets the rows follow is the sorted Molden layout: full statement. -/
theorem mkl_sorted_den (cv1 cvM : Cv) (shells : List Shell)
    (hc : ∀ s ∈ shells, Compatible (cv1 s.key) (cvM s.key)) (coeffs : List Int) (κ : PKey) :
    den cvM (moldenDumpSorted cv1 cvM shells coeffs).1 (moldenDumpSorted cv1 cvM shells coeffs).2 κ
      = den cv1 shells coeffs κ :=
  (molden_sorted_den cv1 cvM shells hc coeffs κ).2

/-- `_violated` (repaired defect, old variant `mklDump`): a skipped centre and an unsorted centre list come back wrong. -/
theorem mkl_centers_violated : mklCenters [0, 2] = [0, 1] ∧ mklCenters [1, 0] = [1, 2] ∧ mklCenters [2] = [1] := by
  decide +kernel

/-- (historical) beta irreps: slicing with `norbb` equalled slicing with `norba` when the two agree … -/
theorem hist_mkl_beta_irreps_equal_counts (n : Nat) (irreps : List Nat) :
    mklBetaIrreps true n n irreps = mklBetaIrreps false n n irreps := rfl

/-- … and not otherwise (`_violated`, repaired by c889048): 3 alpha + 2 beta orbitals, the beta block gets 3 labels. -/
theorem mkl_beta_irreps_violated :
    mklBetaIrreps true 3 2 [1, 2, 3, 4, 5] = [3, 4, 5] ∧ mklBetaIrreps false 3 2 [1, 2, 3, 4, 5] = [4, 5] := by
  decide +kernel

/-- The Molekel coefficient pipeline *as the source implements it now* (flags read off the real writer). -/
theorem mkl_current (cv1 cvM : Cv) (shells : List Shell)
    (hc : ∀ s ∈ shells, Compatible (cv1 s.key) (cvM s.key)) (coeffs : List Int) (κ : PKey) :
    (mklVariant Iodata.Gen.Wf.mklSeparatorsPerCentre cv1 cvM shells coeffs).1 = sortByCenter shells ∧
    den cvM (mklVariant Iodata.Gen.Wf.mklSeparatorsPerCentre cv1 cvM shells coeffs).1
        (mklVariant Iodata.Gen.Wf.mklSeparatorsPerCentre cv1 cvM shells coeffs).2 κ
      = den cv1 shells coeffs κ :=
  molden_sorted_den cv1 cvM shells hc coeffs κ

/-- The beta irreps as the source slices them now are the labels after the `norba` alpha ones. -/
theorem mkl_beta_irreps_current (norba norbb : Nat) (irreps : List Nat) :
    mklBetaIrreps Iodata.Gen.Wf.mklBetaIrrepsUseNorbb norba norbb irreps = irreps.drop norba :=
  rfl

/-- what the Molekel writer does to one orbital column -/
def mklCol (t1 tM : Table) (shells : List Shell) (c : List Int) : List Int :=
  (sortPairs (blocks (cvOf tM) shells (convert (cvOf t1) (cvOf tM) shells c))).flatMap (·.2)

/-- Molekel round trip at the structural level, for every pair of convention tables, shell list (any order,
any centres, skipped centres) and list of orbital columns: if the writer (`$BASIS` of the sorted shells with
`$$` × (centre − previous centre), `$COEFF` blocks of five columns) produces a file and the announced numbers
of functions determine the kinds, then IOData's reader accepts it, returns the shells sorted by centre —
every shell on its own centre — and as many columns, each denoting the same function. -/
theorem mkl_roundtrip (t1 tM : Table) (shells : List Shell) (cols : List (List Int)) (f : MklFile)
    (hw : mklWrite t1 tM shells cols = some f)
    (hk : ∀ s ∈ shells, mklKind (cvOf tM) s.l (cvOf tM s.key).length = some s.kind) :
    mklLoad (cvOf tM) f = some (sortByCenter shells, cols.map (mklCol t1 tM shells)) ∧
      ∀ c κ, den (cvOf tM) (sortByCenter shells) (mklCol t1 tM shells c) κ = den (cvOf t1) shells c κ := by
  obtain ⟨r, hb, rfl⟩ := mklWrite_some hw
  obtain ⟨hc, _, _, happ⟩ := convBasis_apply t1 tM shells r hb
  refine ⟨?_, fun c κ => (sortedRows_spec (cvOf t1) (cvOf tM) shells hc c).2.2 κ⟩
  unfold mklLoad
  simp only
  rw [mklRead_items (cvOf tM) _ 0 (asc_sort shells) (fun s hs => hk s (mem_sortByCenter s shells hs))]
  have hcols : (cols.map fun c => (sortPairs (blocks (cvOf tM) shells (apply r c))).flatMap (·.2))
      = cols.map (mklCol t1 tM shells) :=
    List.map_congr_left fun c _ => by simp only [mklCol, happ]
  simp only [nfun_sort]
  rw [hcols, mklRead_coeffBlocks]
  intro c hc'
  obtain ⟨c0, _, rfl⟩ := List.mem_map.mp hc'
  exact (sortedRows_spec (cvOf t1) (cvOf tM) shells hc c0).2.1

/-- In Molekel's convention table the number of functions of an entry determines its kind (the reader's
`nbasis_shell == len(CONVENTIONS.get(...))` decision). -/
theorem mkl_kinds_ok : Iodata.Gen.Conventions.molekel.all (fun e =>
    mklKind (cvOf Iodata.Gen.Conventions.molekel) e.1.1 (cvOf Iodata.Gen.Conventions.molekel e.1).length == some e.1.2) = true := by
  decide +kernel

/-- Molekel round trip for the code as it is now (convention table regenerated from the source), no hypothesis
on kinds, shell order or centres. -/
theorem mkl_roundtrip_current (t1 : Table) (shells : List Shell) (cols : List (List Int)) (f : MklFile)
    (hw : mklWrite t1 Iodata.Gen.Conventions.molekel shells cols = some f) :
    mklLoad (cvOf Iodata.Gen.Conventions.molekel) f
        = some (sortByCenter shells, cols.map (mklCol t1 Iodata.Gen.Conventions.molekel shells)) ∧
      ∀ c κ, den (cvOf Iodata.Gen.Conventions.molekel) (sortByCenter shells)
          (mklCol t1 Iodata.Gen.Conventions.molekel shells c) κ = den (cvOf t1) shells c κ := by
  apply mkl_roundtrip t1 _ shells cols f hw
  intro s hs
  obtain ⟨r, hr, _⟩ := mklWrite_some hw
  obtain ⟨c, hc⟩ := convBasis_mem t1 _ (keysOf shells) r hr s.key (List.mem_map.mpr ⟨s, hs, rfl⟩)
  simpa [Shell.key] using List.all_eq_true.mp mkl_kinds_ok _ hc

/-- FCHK basis section (`Shell types` with `-1` for SP and `-l` for pure shells, `Number of primitives per
shell`, `Shell to atom map`, exponents, contraction coefficients, `P(S=P)` coefficients): for every list of
expressible shells — any centres, any order — the reader returns exactly the shells written. -/
theorem fchk_basis_roundtrip (gs : List GShell) (h : ∀ g ∈ gs, FchkOK g) :
    ∃ b, fchkWriteBasis gs = some b ∧ fchkReadBasis b = gs :=
  fchkRead_write gs h

set_option linter.unusedVariables false in
/-- FCHK coefficient blocks: `coeffs.T.flatten()` of the globally converted columns is read back by
`reshape(norb, nbasis).T` as the converted columns, and each denotes the same function — generalized (SP)
shells included. -/
theorem fchk_coeffs_roundtrip (t1 tF : Table) (gs : List GShell) (cols : List (List Int)) (flat : List Int)
    (hw : fchkWriteCoeffs t1 tF gs cols = some flat) (n : Nat) (hn : 0 < n) (hcols : ∀ c ∈ cols, c.length = n) :
    ∃ r, convBasis t1 tF (gkeys gs) false = .ok r ∧
      (r.length = n → fchkReadCoeffs n flat = cols.map (apply r)) ∧
      ∀ c κ, gden (cvOf tF) gs (apply r c) κ = gden (cvOf t1) gs c κ := by
  unfold fchkWriteCoeffs at hw
  cases hb : convBasis t1 tF (gkeys gs) false with
  | error e => simp [hb] at hw
  | ok r =>
    simp only [hb, Option.some.injEq] at hw
    subst hw
    refine ⟨r, rfl, ?_, fun c κ => gden_convert_basis t1 tF gs r hb c κ⟩
    intro hr
    apply fchkRead_coeffs n hn
    intro c hc
    obtain ⟨c0, _, rfl⟩ := List.mem_map.mp hc
    simp [hr]

/-- For every signed permutation `P` of `n`
positions, every `n × n` matrix `D` and all vectors `x, y` of length `n`:
`bilin (P D Pᵀ) (P x) (P y) = bilin D x y`. -/
theorem bilin_signed_perm (r : List (Nat × Int)) (n : Nat) (hr : SignedPerm r n) (D : List (List Int))
    (hD : Square D n) (x y : List Int) (hx : x.length = n) (hy : y.length = n) :
    bilin (convMatrix r D) (apply r x) (apply r y) = bilin D x y := by
  rw [bilin_conv r n hr D x y, bilin_range D x y n hD hx hy]

/-- … and every successful `convert_conventions` returns such a signed permutation (any shell list,
generalized contractions included). -/
theorem convert_is_signed_perm (t1 t2 : Table) (keys : List Key) (r : List (Nat × Int))
    (h : convBasis t1 t2 keys false = .ok r) : SignedPerm r r.length :=
  convBasis_signedPerm t1 t2 keys r h

/-- FCHK density round trip: the writer stores the lower triangle of `P D Pᵀ`, the reader rebuilds the dense
symmetric matrix; evaluated on converted basis-function values it is the original density, for every
symmetric `D`, every shell list and every pair of convention tables. -/
theorem fchk_density_roundtrip (t1 tF : Table) (keys : List Key) (r : List (Nat × Int))
    (h : convBasis t1 tF keys false = .ok r) (D : List (List Int)) (hD : Square D r.length) (hs : Symm D)
    (x y : List Int) (hx : x.length = r.length) (hy : y.length = r.length) :
    bilin (triangleToDense (fchkWriteDm r D)) (apply r x) (apply r y) = bilin D x y := by
  unfold fchkWriteDm
  rw [dense_tril (convMatrix r D) r.length (convMatrix_square r D) (convMatrix_symm r D hs)]
  exact bilin_signed_perm r r.length (convBasis_signedPerm t1 tF keys r h) D hD x y hx hy

/-- The FCHK writer *as the source implements it now* converts the density matrices. -/
theorem fchk_density_current (r : List (Nat × Int)) (D : List (List Int)) :
    fchkDensity Iodata.Gen.Wf.fchkDensitiesConverted r D = convMatrix r D :=
  rfl

/-- Keys of the FCHK table: pure entries have `l ≥ 2` (so `-l` never collides with the SP code `-1` or
with `0`). -/
theorem fchk_keys_ok : Iodata.Gen.Conventions.fchk.all
    (fun e => (e.1.2 == 'c' || e.1.2 == 'p') && (decide (2 ≤ e.1.1) || e.1.2 == 'c')) = true := by decide +kernel

/-! #### FCHK densities: the repaired defect -/

/-- `_violated` (repaired by 4b78e98, old variant `converted = false`): two functions swapped by the conversion (`r = [(1,1),(0,1)]`), `D = diag(1, 0)`:
the converted orbital values are `(y₁, y₀)`; the unconverted matrix evaluates to `y₁²`, the original to `y₀²`. -/
theorem fchk_density_violated :
    bilin (fchkDensity false [(1, 1), (0, 1)] [[1, 0], [0, 0]]) (apply [(1, 1), (0, 1)] [2, 3]) (apply [(1, 1), (0, 1)] [2, 3])
      ≠ bilin [[1, 0], [0, 0]] [2, 3] [2, 3]
    ∧ bilin (fchkDensity true [(1, 1), (0, 1)] [[1, 0], [0, 0]]) (apply [(1, 1), (0, 1)] [2, 3]) (apply [(1, 1), (0, 1)] [2, 3])
      = bilin [[1, 0], [0, 0]] [2, 3] [2, 3] := by
  decide +kernel

/-- The WFN and WFX convention tables carry no sign flips (hypothesis `Pos` of `wfn_dump_den` and `wfn_roundtrip`), and
every format's table is compatible with HORTON2 on the keys it has (hypothesis `Compatible`). -/
theorem tables_ok :
    (Iodata.Gen.Conventions.wfn.all fun e => (e.2.map parse).all fun p => !p.1) = true
    ∧ (Iodata.Gen.Conventions.wfx.all fun e => (e.2.map parse).all fun p => !p.1) = true := by
  decide +kernel

example : wfnDump false N3 (fun _ => h2d) (fun _ => wfnd) [dShell] [1,2,3,4,5,6]
    = [{ center := 0, l := 2, e := 0,
         types := [['x','x'],['y','y'],['z','z'],['x','y'],['x','z'],['y','z']],
         vals := [1, 4, 6, 6, 9, 15] }] := by decide +kernel

example : (wfnLoad N3 (fun _ => wfnd) (wfnDump false N3 (fun _ => h2d) (fun _ => wfnd) [dShell] [1,2,3,4,5,6])).2
    = [1, 4, 6, 2, 3, 5] := by decide +kernel

/-- the hypotheses of `wfn_dump_den` and `wfn_roundtrip` are satisfiable (HORTON2 d shell → WFN d shell) -/
example : Compatible h2d wfnd ∧ Pos wfnd :=
  ⟨(guards_ok_iff h2d wfnd).mp (by
      have : (match guards h2d wfnd with | .ok () => true | .error _ => false) = true := by decide +kernel
      revert this; cases guards h2d wfnd with
      | ok u => cases u; intro _; rfl
      | error e => intro h; simp at h), pos_plusG _⟩

/-- the Molden writer/reader models compute: pure d on centre 1 stored before an s shell on centre 0, HORTON2
source conventions — `[5D10F]` tag, two centre blocks, rows following the sort; the reader returns the
sorted shells (the hypotheses of `molden_roundtrip_current` are satisfiable) -/
example : moldenWrite Iodata.Gen.Wf.moldenHeader Iodata.Gen.Conventions.horton2 Iodata.Gen.Conventions.molden
      [{ center := 1, l := 2, kind := 'p', prims := [(0, 1)] }, { center := 0, l := 0, kind := 'c', prims := [(1, 2)] }]
      [1, 2, 3, 4, 5, 6]
    = some { tags := [Tag.d5f10], gto := [(1, [(0, [(1, 2)])]), (2, [(2, [(0, 1)])])], mo := [6, 1, 2, 3, 4, 5] } := by
  decide +kernel

example : moldenLoad (cvOf Iodata.Gen.Conventions.molden)
      { tags := [Tag.d5f10], gto := [(1, [(0, [(1, 2)])]), (2, [(2, [(0, 1)])])], mo := [6, 1, 2, 3, 4, 5] }
    = some ([{ center := 0, l := 0, kind := 'c', prims := [(1, 2)] }, { center := 1, l := 2, kind := 'p', prims := [(0, 1)] }],
        [6, 1, 2, 3, 4, 5]) := by
  decide +kernel

/-- Molekel: a shell on centre 2 stored before one on centre 0 (centre 1 skipped): `$$ $$` before the second
shell written, centres 0 and 2 read back -/
example : mklWrite Iodata.Gen.Conventions.horton2 Iodata.Gen.Conventions.molekel
      [{ center := 2, l := 0, kind := 'c', prims := [(0, 1)] }, { center := 0, l := 0, kind := 'c', prims := [(1, 1)] }]
      [[1, 2]]
    = some { basis := [.shell 1 0 [(1, 1)], .sep, .sep, .shell 1 0 [(0, 1)]], coeff := [(1, [[2], [1]])] } := by
  decide +kernel

example : mklLoad (cvOf Iodata.Gen.Conventions.molekel)
      { basis := [.shell 1 0 [(1, 1)], .sep, .sep, .shell 1 0 [(0, 1)]], coeff := [(1, [[2], [1]])] }
    = some ([{ center := 0, l := 0, kind := 'c', prims := [(1, 1)] }, { center := 2, l := 0, kind := 'c', prims := [(0, 1)] }],
        [[2, 1]]) := by
  decide +kernel

/-- FCHK: an SP shell and a pure d shell; density lower triangle and back -/
example : (fchkWriteBasis [{ center := 1, cons := [(0, 'c'), (1, 'c')], prims := [(0, [2, 3]), (1, [4, 5])] },
      { center := 0, cons := [(2, 'p')], prims := [(2, [7])] }]).map (fun b => (b.types, b.atomMap, b.c1, b.c2))
    = some ([-1, -2], [2, 1], [2, 4, 7], some [3, 5, 0]) := by decide +kernel

example : triangleToDense (tril [[1, 2, 4], [2, 3, 5], [4, 5, 6]]) = [[1, 2, 4], [2, 3, 5], [4, 5, 6]] := by decide +kernel

/-- a non-trivial signed permutation satisfies the hypotheses of `bilin_signed_perm` -/
example : SignedPerm [(1, -1), (0, 1)] 2 :=
  ⟨by decide +kernel, by decide +kernel⟩

end Iodata.Props.C01
