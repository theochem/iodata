/-
C17 — "a loader that succeeds returns an object in which every attribute it declares as guaranteed is set",
for the ten formats with a raw reader model (`Model/Rd/*`, the functions the driver runs for the `rdr:<fmt>`
correspondence streams, which compare, for every input, the keys of the result dictionary and the attributes that are
not `None` on the constructed object).

All statements are about the *generated* terms
* `Gen.Registry.declared` — the `guaranteed` list that `document_load_one/many` attach to each entry point, and
* `Gen.ReaderKeys` — by `ast`, the keys that every dictionary returned by the real `load_one` carries
  (`always`), the keys stored on some paths only (`sometimes`), whether every frame of `load_many` is an unmodified
  `load_one(lit)` dictionary, and the `IOData` fields whose default is not `None`,
both regenerated from the source on every run: a changed decorator list, or a reader that stops storing a key
unconditionally, breaks a theorem below.

What "set" means.  `hasKeyB o a`: the name `a` is a key of the dictionary the reader returns, with a value that is
not `None`.  `isSetB o a`: `getattr(IOData(**result), a) is not None` (the predicate of the direct search) — a
passed key, or a field defaulting to a fresh `dict`, or `atcorenums` derived from `atnums`.  Both are `false` for
every name the model's result object does not represent (`Rd.accessor? a = none`), so a guaranteed name outside
the represented ones makes the theorem unprovable instead of being skipped; by `uncovered_none` no guaranteed
name of the ten modules is outside.  Represented: atcoords, atnums, atcorenums, atcharges, atffparams,
atmasses, bonds, cellvecs, cube, extra, title (presence of the key; for the dictionaries `atcharges`, `atffparams`, `extra`
presence of the dictionary — their sub-keys are not part of any declaration).
-/
import Iodata.Lemmas.C17Readers
import Iodata.Props.C07Readers
import Iodata.Gen.Registry
import Iodata.Gen.ReaderKeys
import Iodata.Gen.Layouts

namespace Iodata.Props.C17Readers
open Iodata.Chars Iodata.Rd Iodata.Fmt Iodata.Flow
open Iodata.Gen.Registry (declared)
open Iodata.Gen.ReaderKeys (resultKeys loadManyFrames notNoneDefaults)
open Iodata.Props.C07Readers (reader_load_one_ret)

/-- "every name of the generated guaranteed list of `m.e` is a key of `o` and is set on the constructed object"
(the list exists: `m.e` is a declared entry point) -/
def GuaranteedSet (m e : Str) (o : RObj) : Prop :=
  (guaranteedOf declared m e).isSome = true ∧
    ∀ a ∈ (guaranteedOf declared m e).getD [], hasKeyB o a = true ∧ isSetB o a = true

/-! ## registry-wide facts (generated terms only) -/

/-- **source_keys_match_model**.  The table of keys the reader MODELS return (`Rd.modelKeys`, proved row by row
below: `F_keys`) and the table extracted from the SOURCE of the ten `load_one` functions (`Gen.ReaderKeys.resultKeys`:
keys in every returned dictionary / keys stored on some paths only) list the same formats with the same `always` and
the same `sometimes` sets.  (A reader that stops storing a key unconditionally moves it to `sometimes` and breaks
this theorem.) -/
theorem source_keys_match_model :
    resultKeys.map (·.1) = modelKeys.map (·.1) ∧
    ∀ e ∈ resultKeys, ∃ m ∈ modelKeys, m.1 = e.1 ∧ sameSet e.2.1 m.2.1 = true ∧ sameSet e.2.2 m.2.2 = true := by
  decide +kernel

/-- **guaranteed_within_source_always**.  For each of the ten modules and for `load_one` and `load_many`: every
declared guaranteed name is one of the keys that, by the source skeleton, every dictionary returned by `load_one`
carries. -/
theorem guaranteed_within_source_always :
    ∀ d ∈ declared, ∀ e ∈ resultKeys, d.module = e.1 → (d.entry = eLoadOne ∨ d.entry = eLoadMany) →
      ∀ a ∈ d.guaranteed, a ∈ e.2.1 := by
  decide +kernel

/-- **load_many_frames_are_load_one**.  Every `load_many` of the ten modules (cube, the VASP formats and CHARMM CRD have none) yields, by the source
skeleton, only unmodified dictionaries returned by `load_one(lit, …)`; the modules with a `load_many` are exactly
those the registry lists. -/
theorem load_many_frames_are_load_one :
    (∀ p ∈ loadManyFrames, p.2 = true) ∧
    ∀ m ∈ modelKeys, ((loadManyFrames.lookup m.1).isSome ↔ (guaranteedOf declared m.1 eLoadMany).isSome) := by
  decide +kernel

/-- **dict_defaults_match_source**.  Among the represented attribute names, those the constructor model treats as
"defaults to a fresh dict" are exactly the `IOData` fields whose default is not `None` in the source. -/
theorem dict_defaults_match_source :
    ∀ p ∈ accessors, (dictDefaults.contains p.1 = true ↔ p.1 ∈ notNoneDefaults) := by
  decide +kernel

/-- **uncovered_none**.  The list of guaranteed names (of the ten modules' `load_one`/`load_many`) that the model's
result object does not represent is empty — it cannot grow silently; and the list of guaranteed names it is computed
from has at least one `load_one` name for each of the ten modules. -/
theorem uncovered_none :
    uncovered declared = [] ∧
    ∀ m ∈ modelKeys, ∃ t ∈ guaranteedNames declared, t.1 = m.1 ∧ t.2.1 = eLoadOne := by
  decide +kernel

/-! ## from the registry-wide facts to any reader whose keys are a row of `Rd.modelKeys`

The entry point is declared (`uncovered_none`, `load_many_frames_are_load_one`); its guaranteed names are keys of every
`load_one` dictionary by the source skeleton (`guaranteed_within_source_always`), whose key table is the model's
(`source_keys_match_model`); the object has the keys of its row (`F_keys`). -/

theorem guaranteed_load_one {F : Str} {B S : List Str} {o : RObj} (hm : (F, B, S) ∈ modelKeys)
    (hk : KeysBetween o B S) : GuaranteedSet F eLoadOne o :=
  ⟨guaranteedOf_isSome (uncovered_none.2 _ hm),
    guaranteed_of_tables guaranteed_within_source_always source_keys_match_model (Or.inl rfl) hm hk.1⟩

theorem guaranteed_load_many {F : Str} {B S : List Str} {o : RObj} (hm : (F, B, S) ∈ modelKeys)
    (hf : loadManyFrames.lookup F = some true) (hk : KeysBetween o B S) :
    loadManyFrames.lookup F = some true ∧ GuaranteedSet F eLoadMany o :=
  ⟨hf, (load_many_frames_are_load_one.2 _ hm).mp (hf ▸ rfl),
    guaranteed_of_tables guaranteed_within_source_always source_keys_match_model (Or.inr rfl) hm hk.1⟩

theorem api_guaranteed {r : Rd.Out RObj} {F : Str} (hg : ∀ o, r.res = .ok o → GuaranteedSet F eLoadOne o)
    (h : apiOutcome r = .ret) : ∃ o, r.res = .ok o ∧ ctorE o = none ∧ GuaranteedSet F eLoadOne o :=
  have ⟨o, ho, hc⟩ := (reader_load_one_ret r).mp h
  ⟨o, ho, if_pos hc, hg o ho⟩

/-- **xyz_keys**: for every line list, an object returned by the XYZ reader has exactly the keys atcoords, atnums,
title. -/
theorem xyz_keys (T : Tables) (ls : List Str) (o : RObj) (h : (Rd.Xyz.read T ls).res = .ok o) :
    KeysBetween o xyzB [] := by
  obtain ⟨n, rfl⟩ := run_ok (xyz_form T) h
  exact keysBetween_self rfl

/-- **xyz_guaranteed_load_one**: for every line list on which the XYZ reader returns `ok o`, every name of the
generated `guaranteed` list of `xyz.load_one` is a key of `o` and set on `IOData(**o)`. -/
theorem xyz_guaranteed_load_one (T : Tables) (ls : List Str) (o : RObj) (h : (Rd.Xyz.read T ls).res = .ok o) :
    GuaranteedSet fXyz eLoadOne o :=
  guaranteed_load_one (modelKeys_row 0) (xyz_keys T ls o h)

/-- **xyz_guaranteed_load_many**: every frame of `xyz.load_many` is an unmodified `load_one(lit)` dictionary
(generated fact), and for every line list on which the reader returns `ok o`, every name of the generated
`guaranteed` list of `xyz.load_many` is a key of `o` and set on `IOData(**o)`. -/
theorem xyz_guaranteed_load_many (T : Tables) (ls : List Str) (o : RObj) (h : (Rd.Xyz.read T ls).res = .ok o) :
    loadManyFrames.lookup fXyz = some true ∧ GuaranteedSet fXyz eLoadMany o :=
  guaranteed_load_many (modelKeys_row 0) (by decide +kernel) (xyz_keys T ls o h)

/-- **xyz_api_guaranteed**: if `iodata.api.load_one` returns an object for an XYZ file content, the reader returned
a dictionary the constructor accepted and every guaranteed attribute is set on it. -/
theorem xyz_api_guaranteed (T : Tables) (ls : List Str) (h : apiOutcome (Rd.Xyz.read T ls) = .ret) :
    ∃ o, (Rd.Xyz.read T ls).res = .ok o ∧ ctorE o = none ∧ GuaranteedSet fXyz eLoadOne o :=
  api_guaranteed (xyz_guaranteed_load_one T ls) h

/-- **sdf_keys**: for every line list, an object returned by the SDF reader has exactly the keys atcoords, atnums,
bonds, title (`bonds` also when the counts line announces no bond: an array of shape `(0, 3)`). -/
theorem sdf_keys (T : Tables) (L : Rd.Sdf.Layout) (ls : List Str) (o : RObj)
    (h : (Rd.Sdf.read T L ls).res = .ok o) : KeysBetween o sdfB [] := by
  obtain ⟨n, m, rfl⟩ := run_ok (sdf_form T L) h
  exact keysBetween_self rfl

theorem sdf_guaranteed_load_one (T : Tables) (L : Rd.Sdf.Layout) (ls : List Str) (o : RObj)
    (h : (Rd.Sdf.read T L ls).res = .ok o) : GuaranteedSet fSdf eLoadOne o :=
  guaranteed_load_one (modelKeys_row 1) (sdf_keys T L ls o h)

theorem sdf_guaranteed_load_many (T : Tables) (L : Rd.Sdf.Layout) (ls : List Str) (o : RObj)
    (h : (Rd.Sdf.read T L ls).res = .ok o) :
    loadManyFrames.lookup fSdf = some true ∧ GuaranteedSet fSdf eLoadMany o :=
  guaranteed_load_many (modelKeys_row 1) (by decide +kernel) (sdf_keys T L ls o h)

theorem sdf_api_guaranteed (T : Tables) (L : Rd.Sdf.Layout) (ls : List Str)
    (h : apiOutcome (Rd.Sdf.read T L ls) = .ret) :
    ∃ o, (Rd.Sdf.read T L ls).res = .ok o ∧ ctorE o = none ∧ GuaranteedSet fSdf eLoadOne o :=
  api_guaranteed (sdf_guaranteed_load_one T L ls) h

/-- **mol2_keys**: for every line list, an object returned by the MOL2 reader has the keys atcoords, atnums,
atcharges, atffparams, title, and possibly bonds, nothing else. -/
theorem mol2_keys (ls : List Str) (o : RObj) (h : (Rd.Mol2.read ls).res = .ok o) :
    KeysBetween o mol2B [kBonds] := by
  obtain ⟨n, b, rfl⟩ := mol2_form ls o h
  cases b
  · exact keysBetween_self rfl
  · exact keysBetween_insert (l1 := [kAtcoords, kAtnums, kAtcharges, kAtffparams]) (l2 := [kTitle]) rfl

theorem mol2_guaranteed_load_one (ls : List Str) (o : RObj) (h : (Rd.Mol2.read ls).res = .ok o) :
    GuaranteedSet fMol2 eLoadOne o :=
  guaranteed_load_one (modelKeys_row 2) (mol2_keys ls o h)

theorem mol2_guaranteed_load_many (ls : List Str) (o : RObj) (h : (Rd.Mol2.read ls).res = .ok o) :
    loadManyFrames.lookup fMol2 = some true ∧ GuaranteedSet fMol2 eLoadMany o :=
  guaranteed_load_many (modelKeys_row 2) (by decide +kernel) (mol2_keys ls o h)

theorem mol2_api_guaranteed (ls : List Str) (h : apiOutcome (Rd.Mol2.read ls) = .ret) :
    ∃ o, (Rd.Mol2.read ls).res = .ok o ∧ ctorE o = none ∧ GuaranteedSet fMol2 eLoadOne o :=
  api_guaranteed (mol2_guaranteed_load_one ls) h

/-- **pdb_keys**: for every line list, an object returned by the PDB reader has the keys atcoords, atnums,
atffparams, extra, title, and possibly bonds, nothing else. -/
theorem pdb_keys (L : Rd.Pdb.Layout) (ls : List Str) (o : RObj) (h : (Rd.Pdb.read L ls).res = .ok o) :
    KeysBetween o pdbB [kBonds] := by
  obtain ⟨n, c, b, -, rfl⟩ := pdb_form L ls o h
  cases b
  · exact keysBetween_self rfl
  · exact keysBetween_insert (l1 := [kAtcoords, kAtnums, kAtffparams]) (l2 := [kExtra, kTitle]) rfl

theorem pdb_guaranteed_load_one (L : Rd.Pdb.Layout) (ls : List Str) (o : RObj)
    (h : (Rd.Pdb.read L ls).res = .ok o) : GuaranteedSet fPdb eLoadOne o :=
  guaranteed_load_one (modelKeys_row 3) (pdb_keys L ls o h)

theorem pdb_guaranteed_load_many (L : Rd.Pdb.Layout) (ls : List Str) (o : RObj)
    (h : (Rd.Pdb.read L ls).res = .ok o) :
    loadManyFrames.lookup fPdb = some true ∧ GuaranteedSet fPdb eLoadMany o :=
  guaranteed_load_many (modelKeys_row 3) (by decide +kernel) (pdb_keys L ls o h)

theorem pdb_api_guaranteed (L : Rd.Pdb.Layout) (ls : List Str) (h : apiOutcome (Rd.Pdb.read L ls) = .ret) :
    ∃ o, (Rd.Pdb.read L ls).res = .ok o ∧ ctorE o = none ∧ GuaranteedSet fPdb eLoadOne o :=
  api_guaranteed (pdb_guaranteed_load_one L ls) h

/-! ## Gaussian cube (no `load_many`) -/

/-- **cube_keys**: for every line list, an object returned by the cube reader has exactly the keys atcoords, atnums,
atcorenums, cellvecs, cube, title. -/
theorem cube_keys (ls : List Str) (o : RObj) (h : (Rd.Cube.read ls).res = .ok o) : KeysBetween o cubeB [] := by
  obtain ⟨n, s, rfl⟩ := run_ok cube_form h
  exact keysBetween_self rfl

theorem cube_guaranteed_load_one (ls : List Str) (o : RObj) (h : (Rd.Cube.read ls).res = .ok o) :
    GuaranteedSet fCube eLoadOne o :=
  guaranteed_load_one (modelKeys_row 4) (cube_keys ls o h)

theorem cube_api_guaranteed (ls : List Str) (h : apiOutcome (Rd.Cube.read ls) = .ret) :
    ∃ o, (Rd.Cube.read ls).res = .ok o ∧ ctorE o = none ∧ GuaranteedSet fCube eLoadOne o :=
  api_guaranteed (cube_guaranteed_load_one ls) h

/-- **gro_keys**: for every line list, an object returned by the GRO reader has exactly the keys atcoords,
atffparams, cellvecs, extra, title. -/
theorem gro_keys (ls : List Str) (o : RObj) (h : (Rd.Gro.read ls).res = .ok o) : KeysBetween o groB [] := by
  obtain ⟨n, rfl⟩ := run_ok gro_form h
  exact keysBetween_self rfl

theorem gro_guaranteed_load_one (ls : List Str) (o : RObj) (h : (Rd.Gro.read ls).res = .ok o) :
    GuaranteedSet fGro eLoadOne o :=
  guaranteed_load_one (modelKeys_row 5) (gro_keys ls o h)

theorem gro_guaranteed_load_many (ls : List Str) (o : RObj) (h : (Rd.Gro.read ls).res = .ok o) :
    loadManyFrames.lookup fGro = some true ∧ GuaranteedSet fGro eLoadMany o :=
  guaranteed_load_many (modelKeys_row 5) (by decide +kernel) (gro_keys ls o h)

theorem gro_api_guaranteed (ls : List Str) (h : apiOutcome (Rd.Gro.read ls) = .ret) :
    ∃ o, (Rd.Gro.read ls).res = .ok o ∧ ctorE o = none ∧ GuaranteedSet fGro eLoadOne o :=
  api_guaranteed (gro_guaranteed_load_one ls) h

/-! ## VASP POSCAR, CHGCAR, LOCPOT (no `load_many`) -/

/-- **poscar_keys**: for every line list, an object returned by the POSCAR reader has exactly the keys atcoords,
atnums, cellvecs, title. -/
theorem poscar_keys (T : Tables) (ls : List Str) (o : RObj) (h : (Rd.Vasp.readPoscar T ls).res = .ok o) :
    KeysBetween o poscarB [] := by
  obtain ⟨hd, -, rfl⟩ := run_ok (Rd.Vasp.poscar_form T) h
  exact keysBetween_self rfl

theorem poscar_guaranteed_load_one (T : Tables) (ls : List Str) (o : RObj)
    (h : (Rd.Vasp.readPoscar T ls).res = .ok o) : GuaranteedSet fPoscar eLoadOne o :=
  guaranteed_load_one (modelKeys_row 6) (poscar_keys T ls o h)

theorem poscar_api_guaranteed (T : Tables) (ls : List Str) (h : apiOutcome (Rd.Vasp.readPoscar T ls) = .ret) :
    ∃ o, (Rd.Vasp.readPoscar T ls).res = .ok o ∧ ctorE o = none ∧ GuaranteedSet fPoscar eLoadOne o :=
  api_guaranteed (poscar_guaranteed_load_one T ls) h

/-- **chgcar_keys**: for every line list, an object returned by the CHGCAR reader has exactly the keys atcoords,
atnums, cellvecs, cube, title. -/
theorem chgcar_keys (T : Tables) (ls : List Str) (o : RObj) (h : (Rd.Vasp.readChgcar T ls).res = .ok o) :
    KeysBetween o vaspGridB [] := by
  obtain ⟨hd, g, -, -, -, -, rfl⟩ := Rd.Vasp.grid_form T (run_eq h)
  exact keysBetween_self rfl

theorem chgcar_guaranteed_load_one (T : Tables) (ls : List Str) (o : RObj)
    (h : (Rd.Vasp.readChgcar T ls).res = .ok o) : GuaranteedSet fChgcar eLoadOne o :=
  guaranteed_load_one (modelKeys_row 7) (chgcar_keys T ls o h)

theorem chgcar_api_guaranteed (T : Tables) (ls : List Str) (h : apiOutcome (Rd.Vasp.readChgcar T ls) = .ret) :
    ∃ o, (Rd.Vasp.readChgcar T ls).res = .ok o ∧ ctorE o = none ∧ GuaranteedSet fChgcar eLoadOne o :=
  api_guaranteed (chgcar_guaranteed_load_one T ls) h

theorem locpot_keys (T : Tables) (ls : List Str) (o : RObj) (h : (Rd.Vasp.readLocpot T ls).res = .ok o) :
    KeysBetween o vaspGridB [] :=
  chgcar_keys T ls o h

theorem locpot_guaranteed_load_one (T : Tables) (ls : List Str) (o : RObj)
    (h : (Rd.Vasp.readLocpot T ls).res = .ok o) : GuaranteedSet fLocpot eLoadOne o :=
  guaranteed_load_one (modelKeys_row 8) (locpot_keys T ls o h)

theorem locpot_api_guaranteed (T : Tables) (ls : List Str) (h : apiOutcome (Rd.Vasp.readLocpot T ls) = .ret) :
    ∃ o, (Rd.Vasp.readLocpot T ls).res = .ok o ∧ ctorE o = none ∧ GuaranteedSet fLocpot eLoadOne o :=
  api_guaranteed (locpot_guaranteed_load_one T ls) h

/-! ## CHARMM CRD (module `charmm`, no `load_many`) -/

/-- **crd_keys**: for every line list, an object returned by the CRD reader has exactly the keys atcoords,
atffparams, atmasses, extra, title. -/
theorem crd_keys (ls : List Str) (o : RObj) (h : (Rd.Crd.read ls).res = .ok o) : KeysBetween o crdB [] := by
  obtain ⟨n, rfl⟩ := run_ok Rd.Crd.crd_form h
  exact keysBetween_self rfl

/-- **crd_guaranteed_load_one**: as `xyz_guaranteed_load_one`, for `charmm.load_one` (guaranteed: atcoords,
atffparams, atmasses, extra). -/
theorem crd_guaranteed_load_one (ls : List Str) (o : RObj) (h : (Rd.Crd.read ls).res = .ok o) :
    GuaranteedSet fCrd eLoadOne o :=
  guaranteed_load_one (modelKeys_row 9) (crd_keys ls o h)

theorem crd_api_guaranteed (ls : List Str) (h : apiOutcome (Rd.Crd.read ls) = .ret) :
    ∃ o, (Rd.Crd.read ls).res = .ok o ∧ ctorE o = none ∧ GuaranteedSet fCrd eLoadOne o :=
  api_guaranteed (crd_guaranteed_load_one ls) h

/-! ## non-vacuity: concrete files on which the readers return an object (evaluated by the kernel with the generated
tables and layouts), with its keys, the constructor's acceptance and the guaranteed names exhibited; for MOL2 and PDB
one file with and one without the `sometimes` key `bonds`; for SDF a record without bonds (`bonds` is still a key) -/

open Iodata.Gen.Layouts (tables sdfL pdbL)

example : witnessOk declared (Rd.Xyz.read tables xyzH2) fXyz eLoadOne [kAtcoords, kAtnums, kTitle] = true ∧
    witnessOk declared (Rd.Xyz.read tables xyzH2) fXyz eLoadMany [kAtcoords, kAtnums, kTitle] = true := by
  decide +kernel
example : witnessOk declared (Rd.Sdf.read tables sdfL sdfIon) fSdf eLoadOne [kAtcoords, kAtnums, kBonds, kTitle] = true ∧
    witnessOk declared (Rd.Sdf.read tables sdfL sdfOH) fSdf eLoadMany [kAtcoords, kAtnums, kBonds, kTitle] = true ∧
    (Rd.Sdf.read tables sdfL sdfIon).res
      = .ok { atcoords := some [1, 3], atnums := some [1], bonds := some [0, 3], hasTitle := true } := by
  decide +kernel
example : witnessOk declared (Rd.Mol2.read mol2NoBond) fMol2 eLoadOne
      [kAtcoords, kAtnums, kAtcharges, kAtffparams, kTitle] = true ∧
    witnessOk declared (Rd.Mol2.read mol2Bond) fMol2 eLoadMany
      [kAtcoords, kAtnums, kAtcharges, kAtffparams, kBonds, kTitle] = true := by
  decide +kernel
example : witnessOk declared (Rd.Pdb.read pdbL pdbNoBond) fPdb eLoadOne
      [kAtcoords, kAtnums, kAtffparams, kExtra, kTitle] = true ∧
    witnessOk declared (Rd.Pdb.read pdbL pdbBond) fPdb eLoadMany
      [kAtcoords, kAtnums, kAtffparams, kBonds, kExtra, kTitle] = true := by
  decide +kernel
example : witnessOk declared (Rd.Cube.read cubeH) fCube eLoadOne
      [kAtcoords, kAtnums, kAtcorenums, kCellvecs, kCube, kTitle] = true := by
  decide +kernel
example : witnessOk declared (Rd.Gro.read groSol) fGro eLoadOne [kAtcoords, kAtffparams, kCellvecs, kExtra, kTitle] = true ∧
    witnessOk declared (Rd.Gro.read groSol) fGro eLoadMany [kAtcoords, kAtffparams, kCellvecs, kExtra, kTitle] = true := by
  decide +kernel
example : witnessOk declared (Rd.Vasp.readPoscar tables poscarBN) fPoscar eLoadOne
      [kAtcoords, kAtnums, kCellvecs, kTitle] = true := by
  decide +kernel
example : witnessOk declared (Rd.Vasp.readChgcar tables chgcarO) fChgcar eLoadOne
      [kAtcoords, kAtnums, kCellvecs, kCube, kTitle] = true ∧
    witnessOk declared (Rd.Vasp.readLocpot tables chgcarO) fLocpot eLoadOne
      [kAtcoords, kAtnums, kCellvecs, kCube, kTitle] = true ∧
    apiOutcome (Rd.Vasp.readChgcar tables chgcarO) = .ret := by
  decide +kernel
example : witnessOk declared (Rd.Crd.read crdTwo) fCrd eLoadOne
      [kAtcoords, kAtffparams, kAtmasses, kExtra, kTitle] = true ∧
    apiOutcome (Rd.Crd.read crdTwo) = .ret ∧
    guaranteedOf declared fCrd eLoadOne = some [kAtcoords, kAtffparams, kAtmasses, kExtra] := by
  decide +kernel
/-- the API level is not vacuous either: `load_one` returns the object for the XYZ witness -/
example : apiOutcome (Rd.Xyz.read tables xyzH2) = .ret := by decide +kernel
/-- a name the object does not represent is never "set" (so a guaranteed list containing it cannot be proved) -/
example : hasKeyB {} ['e','n','e','r','g','y'] = false ∧ isSetB {} ['e','n','e','r','g','y'] = false ∧
    isSetB {} kExtra = true ∧ hasKeyB {} kExtra = false := by decide +kernel

end Iodata.Props.C17Readers
