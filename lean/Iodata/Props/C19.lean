/-
C19 — generated Gaussian/ORCA input files describe the molecule they were generated from.

Property theorems only (helpers in `Iodata/Lemmas/Inputs.lean`).  The model
(`Iodata/Model/Inputs.lean`) is tied to `iodata/inputs/*.py` and `api.write_input` by the byte-exact
correspondence stream `input`; `Iodata/Gen/Inputs.lean` (element symbols, default templates, run-type
keyword maps, defaults, atom-line layout) is regenerated from the source on every run.
-/
import Iodata.Lemmas.Inputs
import Iodata.Lemmas.StrLit
import Iodata.Gen.Inputs

namespace Iodata.Props.C19
open Iodata.Inputs
open Iodata.Select (Str find?_key_eq_none find?_key_eq_some)

/-!
`geometry t atoms` is the default block written over the atoms; `geometryWith_default` (G0, after C4) shows that
it is what the generic `geometryWith` computes for the programs' `default_atom_line`, so G1–G3 are about the model
the driver runs. -/

/-- G1. The geometry block exists iff every atom has an element symbol, and then it is the atoms'
lines, one per atom, in the order of the atoms, joined by newlines (all molecules). -/
theorem geometry_lines (t : List (Nat × Str)) (atoms : List Atom) (g : Str) :
    geometry t atoms = some g ↔
      ∃ lines : List Str, lines.length = atoms.length ∧
        (∀ i (h : i < atoms.length) (h' : i < lines.length), atomLine t atoms[i] = some lines[i]) ∧
        g = joinNl lines := by
  unfold geometry
  simp only [Option.map_eq_some_iff, allSome_eq_some, map_eq_map_iff_getElem, and_assoc, eq_comm (a := g)]

/-- G2. A reader that splits the block at newlines gets the atom lines back, one per atom
(no atom line contains a newline, so lines cannot merge or split), provided no symbol of the table does. -/
theorem geometry_split (t : List (Nat × Str)) (ht : ∀ e ∈ t, '\n' ∉ e.2) (atoms : List Atom) (hne : atoms ≠ [])
    (g : Str) (h : geometry t atoms = some g) :
    (splitNl g).length = atoms.length ∧ (splitNl g).map some = atoms.map (atomLine t) := by
  unfold geometry at h
  obtain ⟨lines, hs, rfl⟩ := Option.map_eq_some_iff.mp h
  have hl := (allSome_eq_some _ _).mp hs
  have hnl : ∀ l ∈ lines, '\n' ∉ l := fun l hlm => by
    have : some l ∈ atoms.map (atomLine t) := hl ▸ List.mem_map_of_mem hlm
    obtain ⟨a, _, ha⟩ := List.mem_map.mp this
    exact atomLine_noNl t ht a l ha
  have hne' : lines ≠ [] := by rintro rfl; exact hne (by simpa using hl)
  rw [splitNl_joinNl lines hne' hnl]
  exact ⟨by simpa using (congrArg List.length hl).symm, hl.symm⟩

/-- G3. An atom line is the element symbol of `num2sym[atnum]` left-aligned in 3 columns followed by the
three coordinates as `10.6f` fields separated by single blanks; no line for an unknown atomic number. -/
theorem atomLine_spec (t : List (Nat × Str)) (a : Atom) :
    (atomLine t a = none ↔ ∀ e ∈ t, e.1 ≠ a.atnum) ∧
    (∀ l, atomLine t a = some l → ∃ sym, (a.atnum, sym) ∈ t ∧
        l = padRight 3 sym ++ [' '] ++ fmtFix6 a.x ++ [' '] ++ fmtFix6 a.y ++ [' '] ++ fmtFix6 a.z) := by
  unfold atomLine
  cases hf : t.find? (fun e => e.1 == a.atnum) with
  | none => exact ⟨iff_of_true rfl ((find?_key_eq_none _ t _).mp hf), nofun⟩
  | some e =>
    obtain ⟨hm, hk⟩ := find?_key_eq_some hf
    refine ⟨iff_of_false nofun fun h => h e hm hk, ?_⟩
    rintro l ⟨rfl⟩
    exact ⟨e.2, hk ▸ hm, by simp⟩

/-- C1. For EVERY callback and every object: the geometry block exists iff every call
`atom_line(data, i)`, `i = 0 … natom-1`, returns a `str`, and it is then those strings, one per atom, in the order
of the atoms, joined by single newlines.  Nothing is added, dropped, re-ordered, stripped or re-formatted. -/
theorem geometry_lines_custom (f : AtomLineFn) (m : Mol) (g : Str) :
    geometryWith f m = .ok g ↔
      ∃ lines : List Str, lines.length = m.atoms.length ∧
        (∀ i (h : i < lines.length), f m i = .line lines[i]) ∧ g = joinNl lines := by
  unfold geometryWith
  simp only [geomOf_eq_ok, range_map_eq_map_iff, and_assoc]

/-- C2. What a reader that splits the block at newlines sees: the lines of the first callback string, then the
lines of the second, … — `natom + (number of newline characters inside the callback strings)` lines in total.
So "one line per atom" holds for a custom callback exactly when none of its strings contains a newline (an empty
string is one empty line); a string with an embedded newline contributes two lines, the model and the code do not
prevent that. -/
theorem geometry_split_custom (f : AtomLineFn) (m : Mol) (hne : m.atoms ≠ []) (lines : List Str)
    (hlen : lines.length = m.atoms.length) (hpt : ∀ i (h : i < lines.length), f m i = .line lines[i]) :
    geometryWith f m = .ok (joinNl lines) ∧
    splitNl (joinNl lines) = lines.flatMap splitNl ∧
    (splitNl (joinNl lines)).length = m.atoms.length + (lines.map (List.count '\n')).sum ∧
    ((splitNl (joinNl lines)).length = m.atoms.length ↔ ∀ l ∈ lines, '\n' ∉ l) := by
  have hne' : lines ≠ [] := by
    intro h; rw [h] at hlen; exact hne (List.eq_nil_of_length_eq_zero hlen.symm)
  have hs := splitNl_joinNl_flatMap lines hne'
  have hl : (splitNl (joinNl lines)).length = m.atoms.length + (lines.map (List.count '\n')).sum := by
    rw [hs, length_flatMap_splitNl, hlen]
  refine ⟨(geometry_lines_custom f m _).mpr ⟨lines, hlen, hpt, rfl⟩, hs, hl, ?_⟩
  rw [hl, ← sum_count_nl_eq_zero]
  omega

/-- C3. The first call that raises ends the comprehension with that exception: the callback has been called for
atoms `0 … k` and for no later atom (whatever earlier calls returned, `str` or not). -/
theorem geometry_raise (f : AtomLineFn) (m : Mol) (k : Nat) (hk : k < m.atoms.length) (r : Raised)
    (hr : f m k = .raises r) (hpre : ∀ j, j < k → (f m j).isRaise = false) :
    geometryWith f m = .raised r ∧ geometryCalls f m = List.range (k + 1) := by
  obtain ⟨post, hpost⟩ := range_split hk
  obtain ⟨h1, h2⟩ := comprehension_raise (f m) (List.range k) k post r
    (fun j hj => hpre j (List.mem_range.mp hj)) hr
  unfold geometryWith geomOf geometryCalls
  rw [hpost, h1, h2, List.range_succ]
  exact ⟨rfl, rfl⟩

/-- C4. No call raises but some call returns a non-`str` object: the callback is called for EVERY atom and the
join fails (`TypeError`). -/
theorem geometry_nonStr (f : AtomLineFn) (m : Mol) (hno : ∀ j, j < m.atoms.length → (f m j).isRaise = false)
    (k : Nat) (hk : k < m.atoms.length) (hn : f m k = .nonStr) :
    geometryWith f m = .typeError ∧ geometryCalls f m = List.range m.atoms.length := by
  obtain ⟨h1, h2⟩ := comprehension_noraise (f m) (List.range m.atoms.length)
    fun i hi => hno i (List.mem_range.mp hi)
  refine ⟨?_, h2⟩
  unfold geometryWith geomOf
  have : allSome (((List.range m.atoms.length).map (f m)).map LineRes.item) = none :=
    (allSome_eq_none _).mpr
      (List.mem_map.mpr ⟨.nonStr, List.mem_map.mpr ⟨k, List.mem_range.mpr hk, hn⟩, rfl⟩)
  simp only [h1, this]

/-- G0. With the default callback the generic geometry is the default block; an atom without a symbol makes the
default callback raise `KeyError` (an `Exception`), never a non-`str` value. -/
theorem geometryWith_default (t : List (Nat × Str)) (m : Mol) :
    geometryWith (defaultAtomLine t) m =
      match geometry t m.atoms with
      | some g => .ok g
      | none => .raised (.exception sKeyError) := by
  have hd : ∀ i (h : i < m.atoms.length), defaultAtomLine t m i = defaultRes t m.atoms[i] := fun i h => by
    simp [defaultAtomLine, h]
  unfold geometry
  cases hs : allSome (m.atoms.map (atomLine t)) with
  | some lines =>
    obtain ⟨hlen, hpt⟩ := (map_eq_map_iff_getElem _ _ _ _).mp ((allSome_eq_some _ _).mp hs)
    exact (geometry_lines_custom _ m _).mpr ⟨lines, hlen, fun i h => by
      rw [hd i (hlen ▸ h), defaultRes, hpt i (hlen ▸ h) h], rfl⟩
  | none =>
    -- the first atom without a symbol is the first call that raises
    have hex : ∃ k, ∃ h : k < m.atoms.length, atomLine t m.atoms[k] = none := by
      obtain ⟨a, ha, hn⟩ := List.mem_map.mp ((allSome_eq_none _).mp hs)
      obtain ⟨k, h, rfl⟩ := List.getElem_of_mem ha
      exact ⟨k, h, hn⟩
    classical
    obtain ⟨hk, hn⟩ := Nat.find_spec hex
    refine (geometry_raise _ m (Nat.find hex) hk _ (by rw [hd _ hk, defaultRes, hn]) fun j hj => ?_).1
    have hjn := Nat.find_min hex hj
    rw [hd j (hj.trans hk), defaultRes]
    cases h : atomLine t m.atoms[j] with
    | none => exact absurd ⟨hj.trans hk, h⟩ hjn
    | some l => rfl

/-- C5. The calls made are always `atom_line(data, 0), …, atom_line(data, k-1)` for some `k ≤ natom`: in order,
each atom at most once, never an index outside the molecule. -/
theorem calls_initial_segment (f : AtomLineFn) (m : Mol) :
    ∃ k, k ≤ m.atoms.length ∧ geometryCalls f m = List.range k := by
  obtain ⟨k, hk, he⟩ := callsMade_prefix (f m) (List.range m.atoms.length)
  rw [List.length_range] at hk
  exact ⟨k, hk, by unfold geometryCalls; rw [he, List.take_range, Nat.min_eq_left hk]⟩

/-- P1. `geometry` is always the generated block — even a keyword argument named `geometry` cannot replace it. -/
theorem field_geometry (pf : Fields) (m : Mol) (kw : Fields) (g : Str) :
    lookup (allFields pf m kw g) sGeometry = some (.str g) := by
  simp [allFields, override, lookup_cons_self]

/-- P2. Precedence for every other field name: keyword arguments > program defaults > fields derived from the
object. -/
theorem field_precedence (pf : Fields) (m : Mol) (kw : Fields) (g : Str) (k : Str) (hk : k ≠ sGeometry) :
    lookup (allFields pf m kw g) k =
      match lookup kw k with
      | some v => some v
      | none => match lookup pf k with
        | some v => some v
        | none => lookup (baseFields m) k := by
  simp only [allFields, override]
  rw [List.singleton_append, lookup_cons_ne _ _ _ _ (Ne.symm hk), lookup_append, lookup_append]
  cases lookup kw k <;> cases lookup pf k <;> simp

/-- P3. What `template.format` finds under `title`, `spinmult` and `charge` when neither the program nor the caller
overrides them (rounding: `roundHalfEven_spec`). -/
theorem baseFields_spec (m : Mol) :
    lookup (baseFields m) sTitle = some (.str (m.title.getD defaultTitle)) ∧
    lookup (baseFields m) sSpinmult = some (.int (match m.spinpol with
      | some s => ((roundHalfEven s).natAbs : Int) + 1 | none => 1)) ∧
    lookup (baseFields m) sCharge = some (.int (match m.charge with
      | some c => roundHalfEven c | none => 0)) := by
  refine ⟨?_, rfl, rfl⟩
  cases h : m.title <;> simp only [baseFields, h] <;> rfl

/-- P3b. `roundHalfEven` is rounding to the nearest integer with ties to the even neighbour. -/
theorem roundHalfEven_spec (q : Rat) :
    |q - (roundHalfEven q : Rat)| ≤ 1 / 2 ∧
    (|q - (roundHalfEven q : Rat)| = 1 / 2 → roundHalfEven q % 2 = 0) := by
  have h1 : (q.floor : Rat) ≤ q := Rat.floor_le q
  have h2 : q < (q.floor : Rat) + 1 := by
    have := (Rat.floor_lt_iff (a := q) (x := q.floor + 1)).mp (by omega)
    push_cast at this; exact this
  unfold roundHalfEven
  simp only
  split_ifs with c1 c2 c3
  · have : |q - (q.floor : Rat)| < 1 / 2 := abs_lt.mpr ⟨by linarith only [h1], c1⟩
    exact ⟨this.le, fun h => absurd h this.ne⟩
  · have : |q - ((q.floor + 1 : Int) : Rat)| < 1 / 2 := by
      push_cast; exact abs_lt.mpr ⟨by linarith only [c2], by linarith only [h2]⟩
    exact ⟨this.le, fun h => absurd h this.ne⟩
  · exact ⟨abs_le.mpr ⟨by linarith only [h1], not_lt.mp c2⟩, fun _ => c3⟩
  · exact ⟨by push_cast; exact abs_le.mpr ⟨by linarith only [c1], by linarith only [h2]⟩, fun _ => by omega⟩

/-- P4. Program-specific fields: level of theory and basis of the object or the program's default (an empty
string counts as absent); run type of the object (default `energy`), lower-cased, mapped through the program's
keyword table — an unknown run type is an error, never a silent default. -/
theorem programFields_spec (p : Program) (m : Mol) :
    (programFields p m = none ↔
      ∀ e ∈ p.keywords, e.1 ≠ (orDefault m.runType p.defaultRunType).map lowerChar) ∧
    (∀ pf, programFields p m = some pf →
      lookup pf sLot = some (.str (orDefault m.lot p.defaultLot)) ∧
      lookup pf sBasis = some (.str (orDefault m.obasisName p.defaultBasis)) ∧
      ∃ kw, ((orDefault m.runType p.defaultRunType).map lowerChar, kw) ∈ p.keywords ∧
        lookup pf sRunType = some (.str kw)) := by
  unfold programFields
  cases hf : p.keywords.find? (fun e => e.1 == (orDefault m.runType p.defaultRunType).map lowerChar) with
  | none => exact ⟨iff_of_true rfl ((find?_key_eq_none _ _ _).mp hf), nofun⟩
  | some e =>
    obtain ⟨hm, hk⟩ := find?_key_eq_some hf
    refine ⟨iff_of_false nofun fun h => h e hm hk, ?_⟩
    rintro pf ⟨rfl⟩
    exact ⟨rfl, rfl, e.2, hk ▸ hm, rfl⟩

/-- E1. Outcome of `api.write_input` for every program name, object, template, callback and keyword arguments.
An unknown program name is a `FileFormatError` (and only that is) and then the file is NOT opened and the callback
never called.  For a known program the file HAS been opened for writing (created or truncated) before anything is
rendered; every `Exception` while rendering is a `WriteInputError`, a `BaseException` that is not an `Exception`
leaves unchanged, and in both cases the file stays behind EMPTY (the text is printed in one piece after rendering
succeeded).  No other error class exists. -/
theorem run_errors (t : List (Nat × Str)) (ps : List Program) (m : Mol) (fmt : Str)
    (template : Option Str) (cb : Option AtomLineFn) (kw : Fields) :
    ((run t ps m fmt template cb kw).error = some .fileFormatError ↔ ∀ p ∈ ps, p.name ≠ fmt) ∧
    ((∀ p ∈ ps, p.name ≠ fmt) → run t ps m fmt template cb kw = ⟨some .fileFormatError, none, []⟩) ∧
    (∀ p, ps.find? (fun p => p.name == fmt) = some p →
      (run t ps m fmt template cb kw).calls = renderCalls t p m cb ∧
      (run t ps m fmt template cb kw).file ≠ none ∧
      ((run t ps m fmt template cb kw).error ≠ none → (run t ps m fmt template cb kw).file = some []) ∧
      ((run t ps m fmt template cb kw).error = some .writeInputError ↔ render t p m template cb kw = .fail) ∧
      (∀ c, (run t ps m fmt template cb kw).error = some (.passThrough c) ↔ render t p m template cb kw = .pass c) ∧
      (∀ s, ((run t ps m fmt template cb kw).error = none ∧ (run t ps m fmt template cb kw).file = some s) ↔
        render t p m template cb kw = .ok s)) := by
  unfold run
  cases hf : ps.find? (fun p => p.name == fmt) with
  | none =>
    have hall := (find?_key_eq_none _ ps fmt).mp hf
    exact ⟨iff_of_true rfl hall, fun _ => rfl, nofun⟩
  | some p =>
    obtain ⟨hm, hk⟩ := find?_key_eq_some hf
    have hnot : ¬ ∀ p ∈ ps, p.name ≠ fmt := fun h => h p hm hk
    refine ⟨?_, fun h => absurd h hnot, ?_⟩
    · simp only [hnot, iff_false]
      generalize render t p m template cb kw = r
      cases r <;> simp
    · rintro _ ⟨rfl⟩
      dsimp only
      generalize render t p m template cb kw = r
      cases r <;> simp

/-- E2. Rendering ends with an `Exception` exactly when the run type is unknown, a callback raises an `Exception`,
a callback returns a non-`str` (and none raises), or the template cannot be formatted with the available fields. -/
theorem render_fail_iff (t : List (Nat × Str)) (p : Program) (m : Mol) (template : Option Str)
    (cb : Option AtomLineFn) (kw : Fields) :
    render t p m template cb kw = .fail ↔
      programFields p m = none ∨
      ∃ pf, programFields p m = some pf ∧
        ((∃ c, geometryWith (cb.getD (defaultAtomLine t)) m = .raised (.exception c)) ∨
         geometryWith (cb.getD (defaultAtomLine t)) m = .typeError ∨
         ∃ g e, geometryWith (cb.getD (defaultAtomLine t)) m = .ok g ∧
           format (allFields pf m kw g) (template.getD p.template) = .error e) := by
  unfold render
  grind

/-- E3. Rendering lets a `BaseException` through exactly when the run type is known and the first raising call of
the callback raises it; the programs' default callbacks never do. -/
theorem render_pass_iff (t : List (Nat × Str)) (p : Program) (m : Mol) (template : Option Str)
    (cb : Option AtomLineFn) (kw : Fields) (c : Str) :
    (render t p m template cb kw = .pass c ↔
      programFields p m ≠ none ∧ geometryWith (cb.getD (defaultAtomLine t)) m = .raised (.baseOnly c)) ∧
    render t p m template none kw ≠ .pass c := by
  have h : ∀ cb : Option AtomLineFn, render t p m template cb kw = .pass c ↔
      programFields p m ≠ none ∧ geometryWith (cb.getD (defaultAtomLine t)) m = .raised (.baseOnly c) := by
    intro cb
    unfold render
    grind
  refine ⟨h cb, fun hp => ?_⟩
  -- the default callback raises `KeyError` only
  have := ((h none).mp hp).2
  rw [Option.getD_none, geometryWith_default] at this
  revert this
  cases geometry t m.atoms <;> simp

/-- E4 (default callback). Without a callback rendering fails exactly when the run type is unknown,
an atom has no symbol, or the template cannot be formatted with the available fields. -/
theorem render_default_fail_iff (t : List (Nat × Str)) (p : Program) (m : Mol) (template : Option Str)
    (kw : Fields) :
    render t p m template none kw = .fail ↔
      programFields p m = none ∨ geometry t m.atoms = none ∨
      ∃ pf g, programFields p m = some pf ∧ geometry t m.atoms = some g ∧
        ∃ e, format (allFields pf m kw g) (template.getD p.template) = .error e := by
  have := geometryWith_default t m
  unfold render
  grind

/-- E5. Known program, known run type, and the callback's first raising
call is at atom `k`.  If it raises an instance of ANY subclass of `Exception`, `write_input` raises
`WriteInputError`; if it raises a `BaseException` that is not an `Exception` (KeyboardInterrupt, SystemExit,
GeneratorExit, …) that exception propagates unchanged.  In both cases the output file has already been opened —
it exists and is empty, previous content is gone — and the callback was called exactly for atoms `0 … k`.
Template, keyword arguments and later atoms play no role. -/
theorem callback_failure_is_WriteInputError (t : List (Nat × Str)) (ps : List Program) (m : Mol) (fmt : Str)
    (template : Option Str) (f : AtomLineFn) (kw : Fields) (p : Program)
    (hp : ps.find? (fun p => p.name == fmt) = some p) (hrt : programFields p m ≠ none)
    (k : Nat) (hk : k < m.atoms.length) (hpre : ∀ j, j < k → (f m j).isRaise = false) :
    (∀ c, f m k = .raises (.exception c) →
      run t ps m fmt template (some f) kw = ⟨some .writeInputError, some [], List.range (k + 1)⟩) ∧
    (∀ c, f m k = .raises (.baseOnly c) →
      run t ps m fmt template (some f) kw = ⟨some (.passThrough c), some [], List.range (k + 1)⟩) := by
  obtain ⟨pf, hpf⟩ := Option.ne_none_iff_exists'.mp hrt
  constructor <;> intro c hc
  all_goals
    obtain ⟨hg, hcalls⟩ := geometry_raise f m k hk _ hc hpre
    simp [run, hp, render, renderCalls, hpf, hg, hcalls]

/-- E6. Known program and run type, no call raises, some call returns a non-`str`: `WriteInputError`
(from the `TypeError` of the join), file opened and empty, callback called for every atom. -/
theorem callback_nonstring_is_WriteInputError (t : List (Nat × Str)) (ps : List Program) (m : Mol) (fmt : Str)
    (template : Option Str) (f : AtomLineFn) (kw : Fields) (p : Program)
    (hp : ps.find? (fun p => p.name == fmt) = some p) (hrt : programFields p m ≠ none)
    (hno : ∀ j, j < m.atoms.length → (f m j).isRaise = false)
    (k : Nat) (hk : k < m.atoms.length) (hn : f m k = .nonStr) :
    run t ps m fmt template (some f) kw = ⟨some .writeInputError, some [], List.range m.atoms.length⟩ := by
  obtain ⟨pf, hpf⟩ := Option.ne_none_iff_exists'.mp hrt
  obtain ⟨hg, hcalls⟩ := geometry_nonStr f m hno k hk hn
  simp [run, hp, render, renderCalls, hpf, hg, hcalls]

/-- E7. Failures that precede the callback: for an unknown program or an unknown run type the callback is never
called, whatever it would do (even raise `KeyboardInterrupt`); the former leaves the file untouched, the latter
leaves it opened and empty. -/
theorem callback_not_called (t : List (Nat × Str)) (ps : List Program) (m : Mol) (fmt : Str)
    (template : Option Str) (cb : Option AtomLineFn) (kw : Fields) :
    ((∀ p ∈ ps, p.name ≠ fmt) → run t ps m fmt template cb kw = ⟨some .fileFormatError, none, []⟩) ∧
    (∀ p, ps.find? (fun p => p.name == fmt) = some p → programFields p m = none →
      run t ps m fmt template cb kw = ⟨some .writeInputError, some [], []⟩) := by
  refine ⟨(run_errors t ps m fmt template cb kw).2.1, ?_⟩
  intro p hp hpf
  simp [run, hp, render, renderCalls, hpf]

/-- E8 (precedence). A user callback REPLACES the program's default for every atom: the outcome does not depend on
the element table at all (the default is never consulted), and omitting the callback is the same as passing the
program's `default_atom_line`. -/
theorem callback_replaces_default (t t' : List (Nat × Str)) (ps : List Program) (m : Mol) (fmt : Str)
    (template : Option Str) (f : AtomLineFn) (kw : Fields) :
    run t ps m fmt template (some f) kw = run t' ps m fmt template (some f) kw ∧
    run t ps m fmt template none kw = run t ps m fmt template (some (defaultAtomLine t)) kw := by
  constructor <;> simp [run, render, renderCalls]

/-- E9. With a callback that returns a `str` for every atom the `geometry` field handed to the template is the join
of ITS strings (for any atomic numbers, also ones without an element symbol), the callback is called once per atom
in order, and the only remaining failure is the template. -/
theorem custom_geometry_rendered (t : List (Nat × Str)) (ps : List Program) (m : Mol) (fmt : Str)
    (template : Option Str) (f : AtomLineFn) (kw : Fields) (p : Program) (pf : Fields)
    (hp : ps.find? (fun p => p.name == fmt) = some p) (hpf : programFields p m = some pf)
    (lines : List Str) (hlen : lines.length = m.atoms.length)
    (hpt : ∀ i (h : i < lines.length), f m i = .line lines[i]) :
    run t ps m fmt template (some f) kw =
      match format (allFields pf m kw (joinNl lines)) (template.getD p.template) with
      | .ok s => ⟨none, some (s ++ ['\n']), List.range m.atoms.length⟩
      | .error _ => ⟨some .writeInputError, some [], List.range m.atoms.length⟩ := by
  have hg := (geometry_lines_custom f m _).mpr ⟨lines, hlen, hpt, rfl⟩
  have hcalls : geometryCalls f m = List.range m.atoms.length :=
    (comprehension_noraise _ _ fun i hi => by
      rw [hpt i (hlen ▸ List.mem_range.mp hi)]; rfl).2
  simp only [run, hp, render, renderCalls, hpf, Option.getD_some, hg, hcalls]
  cases format (allFields pf m kw (joinNl lines)) (template.getD p.template) <;> rfl

open Iodata.Gen.Inputs

/-- T1. `num2sym` covers exactly the atomic numbers 1…118, once each, with symbols of one or two letters
(so the 3-column field never overflows) free of blanks and newlines. -/
theorem num2sym_table :
    num2sym.map (·.1) = (List.range 118).map (· + 1) ∧
    (num2sym.map (·.2)).Nodup ∧
    ∀ e ∈ num2sym, 1 ≤ e.2.length ∧ e.2.length ≤ 2 ∧ '\n' ∉ e.2 ∧ ' ' ∉ e.2 := by
  refine ⟨by decide +kernel, ?_, by decide +kernel⟩
  -- symbols are distinct because their codes (base 128) are
  have h : distinctFrom 0 ((num2sym.map (·.2)).map fun s => s.foldl (fun n c => n * 128 + c.toNat) 0) = true := by
    decide +kernel
  exact (distinctFrom_sound h).1.of_map _ fun _ _ hne e => hne (congrArg _ e)

/-- T2. The run-type keyword maps and defaults are the documented ones. -/
theorem program_tables :
    programs.map (fun p => (p.name, p.keywords, p.defaultLot, p.defaultBasis, p.defaultRunType)) =
      [ ("gaussian".toList,
          [("energy".toList, "sp".toList), ("energy_force".toList, "force".toList), ("opt".toList, "opt".toList),
           ("scan".toList, "scan".toList), ("freq".toList, "freq".toList)],
          "hf".toList, "sto-3g".toList, "energy".toList),
        ("orca".toList,
          [("energy".toList, "Energy".toList), ("freq".toList, "Freq".toList), ("opt".toList, "Opt".toList)],
          "HF".toList, "STO-3G".toList, "energy".toList) ] := by
  simp only [programs, List.map_cons, List.map_nil, List.cons.injEq, Prod.mk.injEq, Iodata.Chars.eq_toList_iff,
    String.reduceOfList, and_self]

/-- T3. Both default atom lines have the layout the model prints — symbol in `3s`, three `10.6f` coordinates,
single blanks — take the symbol from `num2sym[atnums[i]]` and DIVIDE the coordinates by `angstrom`. -/
theorem atom_line_layout :
    ∀ e ∈ atomLineLayout,
      e.2.1 = ["{symbol:3s}".toList, " ".toList, "{atcoord[0]:10.6f}".toList, " ".toList,
               "{atcoord[1]:10.6f}".toList, " ".toList, "{atcoord[2]:10.6f}".toList] ∧
      e.2.2.1 = "data.atcoords[iatom] / angstrom".toList ∧
      e.2.2.2 = "num2sym[data.atnums[iatom]]".toList := by
  simp only [atomLineLayout, List.mem_cons, List.not_mem_nil, or_false, forall_eq_or_imp, forall_eq,
    List.cons.injEq, Iodata.Chars.eq_toList_iff, String.reduceOfList, and_self]

/-- T4. With the default templates every file contains the level of theory, basis, run-type keyword, title,
charge, multiplicity and the geometry block, in the documented layout (for all field values). -/
theorem default_templates (lot basis rt title geom : Str) (charge mult : Int) (rest : Fields) :
    let fs : Fields := (sGeometry, .str geom) :: (sLot, .str lot) :: (sBasis, .str basis) :: (sRunType, .str rt) ::
      (sTitle, .str title) :: (sSpinmult, .int mult) :: (sCharge, .int charge) :: rest
    (programs.map (fun p => format fs p.template)) =
      [ .ok ("#n ".toList ++ lot ++ '/' :: basis ++ ' ' :: rt ++ '\n' :: '\n' :: title ++ '\n' :: '\n' ::
              intStr charge ++ ' ' :: intStr mult ++ '\n' :: geom ++ ['\n', '\n']),
        .ok ("! ".toList ++ lot ++ ' ' :: basis ++ ' ' :: rt ++ '\n' :: '#' :: ' ' :: title ++ '\n' ::
              "*xyz ".toList ++ intStr charge ++ ' ' :: intStr mult ++ '\n' :: geom ++ ['\n', '*']) ] := by
  intro fs
  -- with the appends of the right side nested to the right, both sides are what `formatFrom` computes on the
  -- two concrete templates, the field values staying symbolic
  simp only [List.append_assoc, List.cons_append]
  rfl

example : fmtFix6 957200 = "  0.957200".toList ∧ fmtFix6 (-1) = " -0.000001".toList ∧
    fmtFix6 12345678901 = "12345.678901".toList ∧ fmtFix6 0 = "  0.000000".toList := by decide +kernel

example : roundHalfEven (1 / 2) = 0 ∧ roundHalfEven (3 / 2) = 2 ∧ roundHalfEven (-1 / 2) = 0 ∧
    roundHalfEven (5 / 2) = 2 ∧ roundHalfEven (3 / 5) = 1 ∧ roundHalfEven (-7 / 4) = -2 := by decide +kernel

/-- a callback that ignores the elements: text with braces for atom 0, two lines for atom 1, empty for atom 2,
`KeyboardInterrupt`-like for atom 3, a non-`str` for atom 4, an `Exception` for every later atom -/
private def demoCb : AtomLineFn := fun _ i =>
  match i with
  | 0 => .line ['{','l','o','t','}']
  | 1 => .line ['a','\n','b']
  | 2 => .line []
  | 3 => .raises (.baseOnly ['K','I'])
  | 4 => .nonStr
  | _ => .raises (.exception ['Z'])

private def demoMol (n : Nat) : Mol := ⟨List.replicate n ⟨0, 0, 0, 0⟩, none, none, none, none, none, none⟩

/-- atomic number 0 has no symbol, yet the custom callback renders; braces are not re-interpreted; the block of
three atoms splits into four lines -/
example : run num2sym programs (demoMol 3) "orca".toList (some "{geometry}|".toList) (some demoCb) [] =
    ⟨none, some "{lot}\na\nb\n|\n".toList, [0, 1, 2]⟩ := by decide +kernel
example : run num2sym programs (demoMol 3) "orca".toList (some "{geometry}|".toList) none [] =
    ⟨some .writeInputError, some [], [0]⟩ := by decide +kernel
example : run num2sym programs (demoMol 5) "gaussian".toList none (some demoCb) [] =
    ⟨some (.passThrough ['K','I']), some [], [0, 1, 2, 3]⟩ := by decide +kernel
example : run num2sym programs (demoMol 9) "nwchem".toList none (some demoCb) [] =
    ⟨some .fileFormatError, none, []⟩ := by decide +kernel
example : splitNl (joinNl [['{','l','o','t','}'], ['a','\n','b'], []]) =
    [['{','l','o','t','}'], ['a'], ['b'], []] := by decide +kernel

end Iodata.Props.C19
