/-
C08 — what each format's `prepare_dump` decides, and what `dump_one` makes of it.

Model: `Iodata/Model/Prepare.lean` (the six `prepare_dump` bodies transcribed
statement by statement over the C12 orbital model and the C14 models of `prepare_segmented` /
`prepare_unrestricted_aminusb`; the same definitions the driver runs for the `prep` correspondence stream).
`Gen/PrepareSkeleton.lean` is regenerated from the source on every run; `gen_*` tie it to the reference
skeletons the model transcribes.  The API funnel is `Props/C08.lean` (`dump_one_preflight`).

Validity hypotheses: orbitals satisfy the class invariant `Orb.Inv` (C12: exactly the objects the constructor
and the setters can produce).  Nothing else is assumed about the object.
-/
import Iodata.Lemmas.Prepare
import Iodata.Props.C08
import Iodata.Gen.PrepareSkeleton

namespace Iodata.Props.C08Prepare
open Iodata.Orb Iodata.Seg Iodata.Prep Iodata.Flow Iodata.Flow.Ref

/-- `fchk.prepare_dump`: orbital block (generalized, alpha check, beta check — both unconditional), post-SCF
density guard, `prepare_segmented(data, True, …)` -/
theorem gen_fchk_skeleton : Gen.PrepareSkeleton.fchk = Skel.fchk := rfl
/-- `molden.prepare_dump`: three guards, un-restriction, segmentation without SP exemption -/
theorem gen_molden_skeleton : Gen.PrepareSkeleton.molden = Skel.moBasis "Molden" false := by
  rw [Skel.moBasis, Skel.ofList_append3, Skel.ofList_append3]
  rfl
/-- `molekel.prepare_dump`: as Molden plus the electron-count guard right after the generalized-orbitals guard -/
theorem gen_molekel_skeleton : Gen.PrepareSkeleton.molekel = Skel.moBasis "Molekel" false true := by
  rw [Skel.moBasis, Skel.ofList_append3, Skel.ofList_append3]
  rfl
/-- `wfn.prepare_dump`: as Molden plus the Cartesian-only loop before the conversions -/
theorem gen_wfn_skeleton : Gen.PrepareSkeleton.wfn = Skel.moBasis "WFN" true := by
  rw [Skel.moBasis, Skel.ofList_append3, Skel.ofList_append3]
  rfl
/-- `wfx.prepare_dump`: the statements of `wfn.prepare_dump` with its own name in the two helper calls -/
theorem gen_wfx_skeleton : Gen.PrepareSkeleton.wfx = Skel.moBasis "WFX" true := by
  rw [Skel.moBasis, Skel.ofList_append3, Skel.ofList_append3]
  rfl
/-- `json_qcschema.prepare_dump` in the variant the source has (`qcschemaStrict`: unknown names refused) -/
theorem gen_qcschema_skeleton :
    Gen.PrepareSkeleton.qcschema = Skel.qcschema Gen.PrepareSkeleton.qcschemaStrict := rfl
/-- the writer's dispatch on `schema_name`: three names are written, everything else raises after `open` -/
theorem gen_qcschema_writer : Gen.PrepareSkeleton.qcschemaWriter = Skel.qcschemaWriter := rfl
/-- exactly these six formats have a `prepare_dump`, each with the signature the API calls -/
theorem gen_prepare_signatures :
    Gen.PrepareSkeleton.hasPrepare = ["fchk", "json_qcschema", "molden", "molekel", "wfn", "wfx"] ∧
    [Gen.PrepareSkeleton.fchk_params, Gen.PrepareSkeleton.molden_params, Gen.PrepareSkeleton.molekel_params,
     Gen.PrepareSkeleton.wfn_params, Gen.PrepareSkeleton.wfx_params, Gen.PrepareSkeleton.qcschema_params].all
      (· == Skel.params) = true := by decide +kernel
/-- the helpers of prepare.py the six bodies call: guards in order, what they raise, one `warn` each, the
`keep_sp` exemption `shell.ncon == 2 and (shell.angmoms == [0, 1]).all()` (same reference as C14) -/
theorem gen_helpers_skeleton :
    Gen.PrepareSkeleton.seg_keep = Seg.Skel.seg_keep ∧
    Gen.PrepareSkeleton.prepseg_guards = Seg.Skel.prepseg_guards ∧
    Gen.PrepareSkeleton.prepseg_actions = Seg.Skel.prepseg_actions ∧ Gen.PrepareSkeleton.prepseg_warns = 1 ∧
    Gen.PrepareSkeleton.prepseg_ret = Seg.Skel.prepseg_ret ∧
    Gen.PrepareSkeleton.prepu_guards = Seg.Skel.prepu_guards ∧
    Gen.PrepareSkeleton.prepu_actions = Seg.Skel.prepu_actions ∧ Gen.PrepareSkeleton.prepu_warns = 1 ∧
    Gen.PrepareSkeleton.prepu_ret = Seg.Skel.prepu_ret :=
  ⟨rfl, rfl, rfl, rfl, rfl, rfl, rfl, rfl, rfl⟩

/-- a generalized contraction: the shell does not have exactly one contraction -/
def Generalized (sh : GShell) : Prop := sh.angmoms.length ≠ 1
/-- an SP shell, the only generalized contraction FCHK keeps -/
def IsSP (sh : GShell) : Prop := sh.angmoms = [0, 1]
/-- some function of the basis is not Cartesian -/
def HasPure (b : Basis) : Prop := ∃ sh ∈ b, ∃ k ∈ sh.kinds, k ≠ "c"

theorem isKept_false_iff (sh : GShell) : isKept false sh = true ↔ ¬ Generalized sh := by
  simp only [isKept, Generalized, Bool.false_and, Bool.or_false, beq_iff_eq, ne_eq, not_not]

theorem isKept_true_iff (sh : GShell) : isKept true sh = true ↔ ¬ (Generalized sh ∧ ¬ IsSP sh) := by
  simp only [isKept, Generalized, IsSP, Bool.or_eq_true, Bool.and_eq_true, beq_iff_eq, Bool.true_and, not_and_or,
    not_not, ne_eq]
  exact or_congr_right ⟨And.right, fun h => ⟨h ▸ rfl, h⟩⟩

theorem needS_false_iff (b : Basis) : needS false b = true ↔ ∃ sh ∈ b, Generalized sh := by
  simp only [needS_iff, isKept_false_iff, not_not]

theorem needS_true_iff (b : Basis) : needS true b = true ↔ ∃ sh ∈ b, Generalized sh ∧ ¬ IsSP sh := by
  simp only [needS_iff, isKept_true_iff, not_not]

theorem hasNonCart_iff (b : Basis) : hasNonCart b = true ↔ HasPure b := by
  simp only [hasNonCart, HasPure, List.any_eq_true, bne_iff_ne]

/-- **aufbau check.**  The transcribed test — `na = int(np.round(np.sum(o)))` (round half to even),
`(o[:na] == 1).all() and (o[na:] == 0).all()` with Python's slice clamping, negative bounds included —
accepts exactly "k ones followed by zeros": fractional, doubly occupied, negative or out-of-order entries
are all refused, for every length. -/
theorem fchk_aufbau_check_iff (o : List Rat) :
    aufbauOk o = true ↔ ∃ k, k ≤ o.length ∧ o = List.replicate k 1 ++ List.replicate (o.length - k) 0 :=
  aufbauOk_iff o

/-- **each spin channel separately.**  For valid non-generalized orbitals with occupations — restricted
(with or without `occs_aminusb`) or unrestricted — the orbital block passes iff the alpha occupations AND the
beta occupations (as the `occsa` / `occsb` getters of C12 compute them) are each in aufbau form; otherwise
`PrepareDumpError` is raised by the alpha check or, when alpha is fine, by the beta check. -/
theorem fchk_orbitals_iff (m : MO) (hi : Inv m) (hk : m.kind ≠ .generalized) (o : List Rat) (ho : m.occs = some o) :
    ∃ a b, occsa m = .ok (some a) ∧ occsb m = .ok (some b) ∧
      (m.kind = .restricted → List.zipWith (· + ·) a b = o) ∧ (m.kind = .unrestricted → a ++ b = o) ∧
      (fchkMo m = none ↔ Aufbau a ∧ Aufbau b) ∧
      (¬ Aufbau a → fchkMo m = some (.prepareDump, .alphaAufbau)) ∧
      (Aufbau a → ¬ Aufbau b → fchkMo m = some (.prepareDump, .betaAufbau)) := by
  obtain ⟨a, b, ha, hb, hr, hu, -⟩ := spin_facts hi hk ho
  refine ⟨a, b, ha, hb, fun h => (hr h).1, fun h => (hu h).1, ?_⟩
  rw [fchkMo, if_neg hk, ha, hb, spinCheck, spinCheck, ← aufbauOk_iff, ← aufbauOk_iff]
  cases aufbauOk a <;> cases aufbauOk b <;> decide

theorem fchk_tail_iff (allow : Bool) (d : Obj) :
    (∃ c r, fchkTail allow d = .raised c r) ↔
      (d.postScf = true ∧ lotNamesPostScf d.lot = false) ∨ d.obasis = none ∨
      (allow = false ∧ ∃ b, d.obasis = some b ∧ ∃ sh ∈ b, Generalized sh ∧ ¬ IsSP sh) := by
  unfold fchkTail
  split
  · next hp =>
    rw [Bool.and_eq_true, Bool.not_eq_true'] at hp
    exact iff_of_true ⟨_, _, rfl⟩ (Or.inl hp)
  · next hp =>
    rw [Bool.and_eq_true, Bool.not_eq_true'] at hp
    rw [or_iff_right hp, prepS_rejects_iff]
    simp only [needS_true_iff]

/-- **C08 clause `prepare_rejects_iff`, FCHK.**  `fchk.prepare_dump` raises exactly when
* orbitals are present and are generalized, or their alpha or their beta occupations are missing / not in
  aufbau form, or
* a post-SCF density is present and the level of theory names no post-SCF method, or
* there is no orbital basis (the `ValueError` of `prepare_segmented`, see `fchk_no_obasis_refused`), or
* `allow_changes` is off and some shell is a generalized contraction other than an SP shell.
`occs_aminusb` alone is never a reason; with `allow_changes` generalized contractions are not a reason. -/
theorem fchk_rejects_iff (s allow : Bool) (d : Obj) :
    (∃ c r, prepareDump s .fchk allow d = .raised c r) ↔
      (∃ m, d.mo = some m ∧ (m.kind = .generalized ∨ ¬ SpinAufbau (occsa m) ∨ ¬ SpinAufbau (occsb m))) ∨
      (d.postScf = true ∧ lotNamesPostScf d.lot = false) ∨
      d.obasis = none ∨
      (allow = false ∧ ∃ b, d.obasis = some b ∧ ∃ sh ∈ b, Generalized sh ∧ ¬ IsSP sh) := by
  have orbitals : ∀ m,
      (m.kind = .generalized ∨ ¬ SpinAufbau (occsa m) ∨ ¬ SpinAufbau (occsb m)) ↔ fchkMo m ≠ none :=
    fun m => by rw [Ne, fchkMo_none_iff, not_and_or, not_and_or, not_not]
  simp only [orbitals]
  rw [← fchk_tail_iff allow d, prepareDump_fchk]
  rcases fchk_cases allow d with ⟨m, p, hm, hf, h⟩ | ⟨hmo, h⟩ <;> rw [h]
  · exact iff_of_true ⟨_, _, rfl⟩ (Or.inl ⟨m, hm, hf ▸ Option.some_ne_none p⟩)
  · exact (or_iff_right fun ⟨m, hm, hne⟩ => hne (hmo m hm)).symm

/-- **rejection class (FCHK).**  For valid orbitals that carry occupations every rejection is a
`PrepareDumpError` raised by `prepare_dump` / `prepare_segmented` themselves — except the missing orbital basis,
which is the `ValueError` of `prepare_segmented` (turned into `PrepareDumpError` by the API funnel). -/
theorem fchk_rejection_class (s allow : Bool) (d : Obj)
    (hv : ∀ m, d.mo = some m → Inv m ∧ (m.kind ≠ .generalized → m.occs ≠ none))
    (c : Cls) (r : Reason) (h : prepareDump s .fchk allow d = .raised c r) :
    c = .prepareDump ∨ (d.obasis = none ∧ c = .err .valueError ∧ r = .sNoObasis) := by
  rw [prepareDump_fchk] at h
  have tail : fchkTail allow d = .raised c r →
      c = .prepareDump ∨ (d.obasis = none ∧ c = .err .valueError ∧ r = .sNoObasis) := by
    unfold fchkTail
    split
    · intro e; cases e; exact Or.inl rfl
    · rw [prepS_eq]
      cases d.obasis with
      | none => intro e; cases e; exact Or.inr ⟨rfl, rfl, rfl⟩
      | some b =>
        dsimp only
        cases needS true b with
        | false => exact fun e => absurd e ret_ne_raised
        | true =>
          cases allow with
          | false => intro e; cases e; exact Or.inl rfl
          | true => exact fun e => absurd e ret_ne_raised
  rcases fchk_cases allow d with ⟨m, p, hm, hf, e⟩ | ⟨-, e⟩ <;> rw [e] at h
  · cases h; exact Or.inl (fchkMo_cls (hv m hm).1 (hv m hm).2 hf)
  · exact tail h

/-- **the declared-required oddity (FCHK).**  An object without orbitals, without a post-SCF density and
without an orbital basis — e.g. one that holds exactly the attributes `fchk.dump_one` declares as required —
is refused: `prepare_segmented` raises `ValueError`, which `dump_one` reports as `PrepareDumpError`
("Uncaught exception while preparing").  Consistent with C08; recorded because the writer itself copes with a
missing basis. -/
theorem fchk_no_obasis_refused (s allow : Bool) (d : Obj) (hm : d.mo = none) (hp : d.postScf = false)
    (hb : d.obasis = none) : prepareDump s .fchk allow d = .raised (.err .valueError) .sNoObasis := by
  rw [prepareDump_fchk, fchk_eq_prepS allow d (fun m e => by rw [hm] at e; cases e) (by rw [hp]; rfl),
    prepS_eq, hb]

/-- **accepted objects (FCHK).**  When no reason of `fchk_rejects_iff` other than a
generalized contraction holds: nothing to segment ⇒ the very same object, no warning (whatever
`allow_changes`); otherwise with `allow_changes` a new object whose only change is the segmented basis
(SP shells kept, same basis functions in the same order — C14), announced by exactly one warning, and without
`allow_changes` a `PrepareDumpError`. -/
theorem fchk_accepts (s allow : Bool) (d : Obj) (b : Basis) (hb : d.obasis = some b)
    (hmo : ∀ m, d.mo = some m → fchkMo m = none) (hlot : ¬ (d.postScf = true ∧ lotNamesPostScf d.lot = false)) :
    ((¬ ∃ sh ∈ b, Generalized sh ∧ ¬ IsSP sh) → prepareDump s .fchk allow d = .ret d true []) ∧
    ((∃ sh ∈ b, Generalized sh ∧ ¬ IsSP sh) → allow = true →
        prepareDump s .fchk allow d = .ret { d with obasis := some (segment true b) } false [.segmented] ∧
        fns (segment true b) = fns b ∧ (segment true b).all (isKept true) = true) ∧
    ((∃ sh ∈ b, Generalized sh ∧ ¬ IsSP sh) → allow = false →
        prepareDump s .fchk allow d = .raised .prepareDump .sContraction) := by
  have hp : (d.postScf && !lotNamesPostScf d.lot) = false := by
    rw [← Bool.not_eq_true, Bool.and_eq_true, Bool.not_eq_true']; exact hlot
  have heq : prepareDump s .fchk allow d = prepS true allow d true [] := fchk_eq_prepS allow d hmo hp
  rw [heq, prepS_eq, hb, ← needS_true_iff]
  dsimp only
  cases needS true b with
  | false => exact ⟨fun _ => rfl, nofun, nofun⟩
  | true =>
    refine ⟨fun h => absurd rfl h, fun _ ha => ?_, fun _ ha => ?_⟩
    · rw [ha]; exact ⟨rfl, fns_segment true b, segment_all_kept true b⟩
    · rw [ha]; rfl

/-- the electron count of the orbitals is not an integer (Molekel's `$CHAR_MULT` holds an integer charge):
`occs` is set and `|Σ occs − round_half_even(Σ occs)| > 1e-4` (the double literal, compared exactly) -/
def FractionalNelec (m : MO) : Prop :=
  ∃ o, m.occs = some o ∧ tolNelec < absR (Orb.sum o - (roundHalfEven (Orb.sum o) : Int))

theorem fractionalNelec_iff (m : MO) : fractionalNelec m = true ↔ FractionalNelec m := by
  unfold fractionalNelec FractionalNelec nelec
  cases m.occs with
  | none => simp
  | some o => simp

theorem moHard_iff (c g : Bool) (m : MO) (b : Basis) :
    moHard c g m b = true ↔
      m.kind = .generalized ∨ (c = true ∧ HasPure b) ∨ (g = true ∧ FractionalNelec m) := by
  simp only [moHard, Bool.or_eq_true, Bool.and_eq_true, beq_iff_eq, hasNonCart_iff, fractionalNelec_iff, or_assoc,
    or_comm (a := g = true ∧ FractionalNelec m)]

theorem moSoft_iff {m : MO} (hi : Inv m) (b : Basis) :
    (needU m || needS false b) = true ↔ m.aminusb ≠ none ∨ ∃ sh ∈ b, Generalized sh := by
  rw [Bool.or_eq_true, needU_iff_of_inv hi, needS_false_iff]

/-- the Molden-like body with its optional guards (`c`: the Cartesian-only loop, `g`: the electron-count guard):
complete list of its rejection reasons, all of class `PrepareDumpError` -/
theorem mobody_rejects_iff (c g allow : Bool) (d : Obj) (hv : ∀ m, d.mo = some m → Inv m) :
    ((∃ cl r, moBody c g allow d = .raised cl r) ↔
      d.mo = none ∨ d.obasis = none ∨ (∃ m, d.mo = some m ∧ m.kind = .generalized) ∨
      (c = true ∧ ∃ b, d.obasis = some b ∧ HasPure b) ∨
      (g = true ∧ ∃ m, d.mo = some m ∧ FractionalNelec m) ∨
      (allow = false ∧ ((∃ m, d.mo = some m ∧ m.aminusb ≠ none) ∨
                        (∃ b, d.obasis = some b ∧ ∃ sh ∈ b, Generalized sh)))) ∧
    (∀ cl r, moBody c g allow d = .raised cl r → cl = .prepareDump) := by
  have raised : ∀ {r : Reason} {P : Prop}, P →
      ((∃ cl r', Outcome.raised .prepareDump r = .raised cl r') ↔ P) ∧
      ∀ cl r', Outcome.raised .prepareDump r = .raised cl r' → cl = .prepareDump :=
    fun p => ⟨iff_of_true ⟨_, _, rfl⟩ p, fun _ _ e => by cases e; rfl⟩
  obtain hm | ⟨m, hm⟩ := Option.eq_none_or_eq_some d.mo
  · rw [moBody, hm]; exact raised (Or.inl rfl)
  obtain hb | ⟨b, hb⟩ := Option.eq_none_or_eq_some d.obasis
  · rw [moBody, hm, hb]; exact raised (Or.inr (Or.inl rfl))
  have reasons : (m.kind = .generalized ∨ (c = true ∧ HasPure b) ∨ (g = true ∧ FractionalNelec m) ∨
      (allow = false ∧ (m.aminusb ≠ none ∨ ∃ sh ∈ b, Generalized sh))) ↔
      (moHard c g m b = true ∨ (allow = false ∧ (needU m || needS false b) = true)) := by
    rw [moHard_iff, moSoft_iff (hv m hm), or_assoc, or_assoc]
  simp only [hm, hb, reduceCtorEq, false_or, Option.some.injEq, exists_eq_left', reasons]
  rcases moBody_table c g allow d m b hm hb (hv m hm) with
    ⟨hh, r, h⟩ | ⟨hh, hn, h⟩ | ⟨hh, hn, ha, r, h⟩ | ⟨hh, hn, ha, m', -, h⟩ <;> rw [h]
  · exact raised (Or.inl hh)
  · rw [hh, hn]
    exact ⟨iff_of_false ret_not_rejection fun h => h.elim Bool.false_ne_true (Bool.false_ne_true ·.2),
      fun _ _ e => absurd e ret_ne_raised⟩
  · exact raised (Or.inr ⟨ha, hn⟩)
  · rw [hh, ha]
    exact ⟨iff_of_false ret_not_rejection fun h => h.elim Bool.false_ne_true (Bool.noConfusion ·.1),
      fun _ _ e => absurd e ret_ne_raised⟩

/-- the body without electron-count guard (`moBasis c`: Molden `c = false`, WFN/WFX `c = true`): complete list of
its rejection reasons, all of class `PrepareDumpError` -/
theorem mobasis_core_rejects_iff (c allow : Bool) (d : Obj) (hv : ∀ m, d.mo = some m → Inv m) :
    ((∃ cl r, moBasis c allow d = .raised cl r) ↔
      d.mo = none ∨ d.obasis = none ∨ (∃ m, d.mo = some m ∧ m.kind = .generalized) ∨
      (c = true ∧ ∃ b, d.obasis = some b ∧ HasPure b) ∨
      (allow = false ∧ ((∃ m, d.mo = some m ∧ m.aminusb ≠ none) ∨
                        (∃ b, d.obasis = some b ∧ ∃ sh ∈ b, Generalized sh)))) ∧
    (∀ cl r, moBasis c allow d = .raised cl r → cl = .prepareDump) := by
  rw [moBasis_eq_moBody]
  simpa only [Bool.false_eq_true, false_and, false_or] using mobody_rejects_iff c false allow d hv

/-- **C08 clause `prepare_rejects_iff`, Molden, Molekel, WFN, WFX.**  For valid orbitals, `prepare_dump` raises exactly when
* orbitals or orbital basis are missing (both are declared required, so `_check_required` refuses first), or
* the orbitals are generalized, or
* (WFN, WFX only) some basis function is not Cartesian — also with `allow_changes`, or
* (Molekel only) the electron count `Σ occs` is fractional — also with `allow_changes`, or
* `allow_changes` is off and `occs_aminusb` is set or some shell is a generalized contraction (SP included);
and every such rejection is a `PrepareDumpError` (never another class). -/
theorem mobasis_rejects_iff (s : Bool) (f : Fmt) (hf : IsMoBasis f) (allow : Bool) (d : Obj)
    (hv : ∀ m, d.mo = some m → Inv m) :
    ((∃ c r, prepareDump s f allow d = .raised c r) ↔
      d.mo = none ∨ d.obasis = none ∨ (∃ m, d.mo = some m ∧ m.kind = .generalized) ∨
      (cartOnly f = true ∧ ∃ b, d.obasis = some b ∧ HasPure b) ∨
      (f = .molekel ∧ ∃ m, d.mo = some m ∧ FractionalNelec m) ∨
      (allow = false ∧ ((∃ m, d.mo = some m ∧ m.aminusb ≠ none) ∨
                        (∃ b, d.obasis = some b ∧ ∃ sh ∈ b, Generalized sh)))) ∧
    (∀ c r, prepareDump s f allow d = .raised c r → c = .prepareDump) := by
  rw [prepareDump_mo s f hf]
  simpa only [beq_iff_eq] using mobody_rejects_iff (cartOnly f) (f == .molekel) allow d hv

/-- **accepted objects (Molden, Molekel, WFN, WFX).**  When none of the reasons that
no conversion can remove holds (orbitals valid, not generalized; Cartesian functions only for WFN/WFX; an
integer electron count for Molekel):
* no `occs_aminusb` and no generalized contraction ⇒ the very same object, no warning, whatever `allow_changes`;
* otherwise with `allow_changes`: a new object, the orbitals un-restricted when `occs_aminusb` was set (same alpha
  and beta occupations, coefficients, electron count, spin polarisation — C14), the basis segmented when it had a
  generalized contraction (same functions in the same order — C14), every other attribute untouched, and exactly
  one warning per conversion, in that order. -/
theorem mobasis_accepts (s : Bool) (f : Fmt) (hf : IsMoBasis f) (allow : Bool) (d : Obj) (m : MO) (b : Basis)
    (hm : d.mo = some m) (hb : d.obasis = some b) (hi : Inv m) (hg : m.kind ≠ .generalized)
    (hc : ¬ (cartOnly f = true ∧ HasPure b)) (hfrac : ¬ (f = .molekel ∧ FractionalNelec m)) :
    (m.aminusb = none → (¬ ∃ sh ∈ b, Generalized sh) → prepareDump s f allow d = .ret d true []) ∧
    ((m.aminusb ≠ none ∨ ∃ sh ∈ b, Generalized sh) → allow = true →
      ∃ m', prepareDump s f allow d = .ret (moConverted d m b m') false (moWarns m b) ∧
        moWarns m b = (if m.aminusb.isSome then [.unrestricted] else []) ++
                      (if needS false b then [.segmented] else []) ∧
        (m.aminusb ≠ none → toUnrestricted m = .ok (m', false) ∧ m'.kind = .unrestricted ∧
            occsa m' = occsa m ∧ occsb m' = occsb m ∧ nelec m' = nelec m ∧ spinpol m' = spinpol m) ∧
        fns (segment false b) = fns b) := by
  rw [prepareDump_mo s f hf]
  have hh : moHard (cartOnly f) (f == .molekel) m b = false := by
    rw [← Bool.not_eq_true, moHard_iff, beq_iff_eq]
    exact fun h => h.elim hg (·.elim hc hfrac)
  have soft := moSoft_iff hi b
  rcases moBody_table (cartOnly f) (f == .molekel) allow d m b hm hb hi with
    ⟨hh', -⟩ | ⟨-, hn, h⟩ | ⟨-, hn, ha, -⟩ | ⟨-, hn, ha, m', hm', h⟩
  · rw [hh] at hh'; cases hh'
  · refine ⟨fun _ _ => h, fun hs => ?_⟩
    rw [← soft, hn] at hs; cases hs
  · exact ⟨fun h1 h2 => absurd (soft.mp hn) (fun h => h.elim (· h1) h2), fun _ h => by rw [ha] at h; cases h⟩
  · refine ⟨fun h1 h2 => absurd (soft.mp hn) (fun h => h.elim (· h1) h2),
      fun _ _ => ⟨m', h, ?_, fun hu => ?_, fns_segment false b⟩⟩
    · rw [moWarns, Bool.eq_iff_iff.mpr ((needU_iff_of_inv hi).trans Option.isSome_iff_ne_none.symm)]
    · obtain ⟨m'', h1, _, h3, _, _, h6, h7, _, _, _, h11, h12⟩ := toUnrestricted_restricted hi (hi.2.2 hu)
      have e := hm' ((needU_iff_of_inv hi).mpr hu)
      rw [h1] at e; cases e
      exact ⟨h1, h3, h6, h7, h11, h12⟩

/-- **C08 clause `prepare_rejects_iff`, QCSchema.**  The pre-flight refuses a missing `schema_name` and `qcschema_basis`;
in the `strict` variant of the source also every name the writer cannot write.  `allow_changes` is irrelevant;
an accepted object is returned as the very same object. -/
theorem qcschema_rejects_iff (strict allow : Bool) (d : Obj) :
    ((∃ c r, prepareDump strict .qcschema allow d = .raised c r) ↔
      d.schema = none ∨ d.schema = some "qcschema_basis" ∨
      (strict = true ∧ ∃ n, d.schema = some n ∧ qcschemaWritable n = false)) ∧
    (∀ c r, prepareDump strict .qcschema allow d = .raised c r → c = .prepareDump) ∧
    (∀ d' same ws, prepareDump strict .qcschema allow d = .ret d' same ws → d' = d ∧ same = true ∧ ws = []) := by
  have raised : ∀ {r : Reason} {P : Prop}, P →
      ((∃ c r', Outcome.raised .prepareDump r = .raised c r') ↔ P) ∧
      (∀ c r', Outcome.raised .prepareDump r = .raised c r' → c = .prepareDump) ∧
      ∀ d' same ws, Outcome.raised .prepareDump r = .ret d' same ws → d' = d ∧ same = true ∧ ws = [] :=
    fun p => ⟨iff_of_true ⟨_, _, rfl⟩ p, fun _ _ e => by cases e; rfl,
      fun _ _ _ e => absurd e.symm ret_ne_raised⟩
  rw [prepareDump_qcschema, Prep.qcschema]
  cases d.schema with
  | none => exact raised (Or.inl rfl)
  | some n =>
    dsimp only
    by_cases hb : n = "qcschema_basis"
    · rw [if_pos hb]; exact raised (Or.inr (Or.inl (congrArg some hb)))
    · rw [if_neg hb]
      by_cases hw : (strict && !qcschemaWritable n) = true
      · rw [if_pos hw]
        rw [Bool.and_eq_true, Bool.not_eq_true'] at hw
        exact raised (Or.inr (Or.inr ⟨hw.1, n, rfl, hw.2⟩))
      · rw [if_neg hw]
        refine ⟨iff_of_false ret_not_rejection ?_, fun _ _ e => absurd e ret_ne_raised,
          fun _ _ _ e => by cases e; exact ⟨rfl, rfl, rfl⟩⟩
        rintro (h | h | ⟨hs, n', h, hn⟩)
        · cases h
        · exact hb (Option.some.inj h)
        · cases h; exact hw (by rw [hs, hn]; rfl)

/-- **a schema name the writer cannot write (QCSchema).**  Without the third guard of `prepare_dump`
(`strict = false`) such a name, other than `qcschema_basis`, passes the pre-flight, and the writer raises only after
the file was opened (`gen_qcschema_writer`): `DumpError` with the target truncated.  With the guard, which the source
has (`gen_qcschema_skeleton`), it is refused before anything is opened. -/
theorem qcschema_unknown_name (allow : Bool) (d : Obj) (n : String) (hs : d.schema = some n)
    (hb : n ≠ "qcschema_basis") (hw : qcschemaWritable n = false) :
    prepareDump false .qcschema allow d = .ret d true [] ∧
    ∃ r, prepareDump true .qcschema allow d = .raised .prepareDump r := by
  rw [prepareDump_qcschema, prepareDump_qcschema, Prep.qcschema, Prep.qcschema, hs]
  dsimp only
  rw [if_neg hb, if_neg hb, hw]
  exact ⟨rfl, _, rfl⟩

/-- **identity and warnings.**  Whatever the format and the object: a returned object is the very same object
iff no warning was issued; a different object is returned only with `allow_changes`. -/
theorem prepare_ret_identity (s : Bool) (f : Fmt) (allow : Bool) (d d' : Obj) (same : Bool) (ws : List Warn)
    (hv : ∀ m, d.mo = some m → Inv m)
    (h : prepareDump s f allow d = .ret d' same ws) :
    (same = true ↔ ws = []) ∧ (same = true → d' = d) ∧ (same = false → allow = true) ∧ ws.length ≤ 2 := by
  have ok := prepareDump_retOk s f allow d hv
  rw [h] at ok
  exact ok

/-- **rejection ⇒ PrepareDumpError ∧ file system unchanged.**  Let the callee `prepare_dump` of the API flow
behave as the format's modelled `prepare_dump` does on the object (`prepBeh`), all declared-required attributes
being present.  If the format rejects the object — for whatever reason and with whatever class: its own
`PrepareDumpError`, the `ValueError` of `prepare_segmented`, a `TypeError` from numpy — then `dump_one` raises
`PrepareDumpError`, every path of the file system keeps its content (an existing target keeps its bytes, an
absent one stays absent), and the trace has neither an `open` nor a `write`.  (`Props/C08.dump_one_preflight`
applied to the modelled decision.) -/
theorem dump_one_prepare_rejects (s : Bool) (fmt : Fmt) (allow : Bool) (d : Obj) (b : Beh) (f : Frame)
    (path : Nat) (fs : FS) (hsel : b.select = none) (hp : b.hasPrepare = true) (hreq : checkExc f.attrs = none)
    (hprep : f.prep = prepBeh (prepareDump s fmt allow d))
    (c : Cls) (r : Reason) (h : prepareDump s fmt allow d = .raised c r) :
    (runOne dumpOne b f path fs).1 = .raised .prepareDump none ∧
    (runOne dumpOne b f path fs).2.fs = fs ∧
    Ev.openW ∉ (runOne dumpOne b f path fs).2.trace ∧
    ∀ t, Ev.write t ∉ (runOne dumpOne b f path fs).2.trace := by
  have hbad : preFault b f = some (clsExc c) := by rw [preFault, hreq, hp, hprep, h]; rfl
  exact Props.C08.dump_one_preflight b f path fs (clsExc c) hsel hbad (clsExc_isException c)

/-- **…and only then.**  With the same set-up and a target that can be opened, `dump_one` ends in
`PrepareDumpError` exactly when the format's `prepare_dump` rejects the object; otherwise the target is opened
(truncated) and the returned / converted object is handed to the writer. -/
theorem dump_one_prepare_iff (s : Bool) (fmt : Fmt) (allow : Bool) (d : Obj) (b : Beh) (f : Frame)
    (path : Nat) (fs : FS) (hsel : b.select = none) (hp : b.hasPrepare = true) (hreq : checkExc f.attrs = none)
    (hprep : f.prep = prepBeh (prepareDump s fmt allow d)) (hopen : b.openFail = none) :
    ((runOne dumpOne b f path fs).1 = .raised .prepareDump none ↔ ∃ c r, prepareDump s fmt allow d = .raised c r) ∧
    ((∀ c r, prepareDump s fmt allow d ≠ .raised c r) → Ev.openW ∈ (runOne dumpOne b f path fs).2.trace) := by
  cases hd : prepareDump s fmt allow d with
  | raised c r =>
    exact ⟨iff_of_true (dump_one_prepare_rejects s fmt allow d b f path fs hsel hp hreq hprep c r hd).1 ⟨c, r, rfl⟩,
      fun hno => absurd rfl (hno c r)⟩
  | ret d' same ws =>
    obtain ⟨st', hmaster, evs, -, hif⟩ := dump_one_master b f path fs
    have hpe : preExc b f = none := by rw [preExc_eq, preFault, hreq, hp, hprep, hd]; rfl
    have hop : opened b f = true := by rw [opened, hsel, hpe, hopen]; rfl
    rw [hop, if_pos rfl] at hif
    rw [hmaster]
    refine ⟨iff_of_false ?_ ret_not_rejection, fun _ => ?_⟩
    · rw [dumpOneOut, hsel, hpe, hopen]
      cases f.w.fail with
      | none => exact Out.noConfusion
      | some e => exact fun h => funnelDump_ne_prepareDump e (by injection h)
    · rw [hif.2]
      exact List.mem_cons_of_mem _ (List.mem_append_right _ List.mem_cons_self)

private def sShell : GShell := ⟨0, [0], ["c"], [1], [[1]]⟩
private def spShell : GShell := ⟨0, [0, 1], ["c", "c"], [1], [[1], [1/2]]⟩
private def ssShell : GShell := ⟨0, [0, 0], ["c", "c"], [1], [[1], [1/2]]⟩
private def dPure : GShell := ⟨0, [2], ["p"], [1], [[1]]⟩
/-- identity flag, warnings, kind of the returned orbitals, number of returned shells -/
private def retInfo : Outcome → Option (Bool × List Warn × Option Kind × Option Nat)
  | .ret d same ws => some (same, ws, d.mo.map (·.kind), d.obasis.map List.length)
  | .raised _ _ => none
private def rmo (o : List Rat) (ab : Option (List Rat) := none) : MO :=
  { kind := .restricted, norba := some o.length, norbb := some o.length, occs := some o, aminusb := ab }

/-- restricted occupations `[1, 2, 0]`: alpha `[1, 1, 0]` passes, beta `[0, 1, 0]` does not — refused by the
beta check although the orbitals are restricted (and `[2, 1, 0]` is accepted) -/
example :
    prepareDump false .fchk false { mo := some (rmo [1, 2, 0]), obasis := some [sShell] }
      = .raised .prepareDump .betaAufbau ∧
    prepareDump false .fchk false { mo := some (rmo [2, 1, 0]), obasis := some [sShell] }
      = .ret { mo := some (rmo [2, 1, 0]), obasis := some [sShell] } true [] := by decide +kernel

/-- alpha out of order through `occs_aminusb`; fractional spin occupations; an all-zero `occs_aminusb` is kept -/
example :
    prepareDump false .fchk true { mo := some (rmo [2, 1, 1] (some [0, -1, 1])), obasis := some [sShell] }
      = .raised .prepareDump .alphaAufbau ∧
    prepareDump false .fchk true { mo := some (rmo [2, 1] (some [0, 1/2])), obasis := some [sShell] }
      = .raised .prepareDump .alphaAufbau ∧
    prepareDump false .fchk false { mo := some (rmo [2, 0] (some [0, 0])), obasis := some [sShell] }
      = .ret { mo := some (rmo [2, 0] (some [0, 0])), obasis := some [sShell] } true [] := by decide +kernel

/-- FCHK keeps an SP shell `[0, 1]` but not an `[0, 0]` generalized shell; Molden keeps neither -/
example :
    prepareDump false .fchk false { obasis := some [spShell] } = .ret { obasis := some [spShell] } true [] ∧
    prepareDump false .fchk false { obasis := some [ssShell] } = .raised .prepareDump .sContraction ∧
    prepareDump false .molden false { mo := some (rmo [2]), obasis := some [spShell] }
      = .raised .prepareDump .sContraction := by decide +kernel

/-- `occs_aminusb` that is all zero / sums to zero is still a reason for Molden without `allow_changes`;
with `allow_changes` and an SP shell: two conversions, two warnings, in order -/
example :
    prepareDump false .molden false { mo := some (rmo [2, 0] (some [0, 0])), obasis := some [sShell] }
      = .raised .prepareDump .uAminusb ∧
    prepareDump false .wfx false { mo := some (rmo [1, 1] (some [1, -1])), obasis := some [sShell] }
      = .raised .prepareDump .uAminusb ∧
    retInfo (prepareDump false .molekel true { mo := some (rmo [1, 1] (some [1, -1])), obasis := some [spShell] })
      = some (false, [.unrestricted, .segmented], some .unrestricted, some 2) := by decide +kernel

/-- pure functions: WFN refuses them even with `allow_changes`, Molden writes them -/
example :
    prepareDump false .wfn true { mo := some (rmo [2]), obasis := some [dPure] } = .raised .prepareDump .pureFunctions ∧
    prepareDump false .molden false { mo := some (rmo [2]), obasis := some [dPure] }
      = .ret { mo := some (rmo [2]), obasis := some [dPure] } true [] := by decide +kernel

/-- Molekel refuses a fractional electron count even with `allow_changes` (occupations `[2, 2, 5/4]` with
`occs_aminusb`), accepts fractional occupations with an integer total; Molden converts the former -/
example :
    prepareDump false .molekel true { mo := some (rmo [2, 2, 5/4] (some [0, 0, 3/4])), obasis := some [sShell] }
      = .raised .prepareDump .fractionalNelec ∧
    prepareDump false .molekel false { mo := some (rmo [3/2, 1/2]), obasis := some [sShell] }
      = .ret { mo := some (rmo [3/2, 1/2]), obasis := some [sShell] } true [] ∧
    retInfo (prepareDump false .molden true { mo := some (rmo [2, 2, 5/4] (some [0, 0, 3/4])), obasis := some [sShell] })
      = some (false, [.unrestricted], some .unrestricted, some 1) := by decide +kernel

/-- through the extracted `dump_one`: a Molden object with `occs_aminusb`, no `allow_changes`, target
pre-existing with content `[7, 7]` — refused, bytes kept, nothing opened -/
example :
    let d : Obj := { mo := some (rmo [2, 0] (some [0, 0])), obasis := some [sShell] }
    let fr : Frame := ⟨[.val, .val, .val, .val], prepBeh (prepareDump false .molden false d), ⟨3, none⟩⟩
    let r := runOne Gen.ApiFlow.dumpOne {} fr 0 (fun p => if p = 0 then some [7, 7] else none)
    r.1 = .raised .prepareDump none ∧ r.2.fs 0 = some [7, 7] ∧ Ev.openW ∉ r.2.trace := by decide +kernel

end Iodata.Props.C08Prepare
