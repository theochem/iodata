/-
C17 — format selection is deterministic and declared capabilities are truthful.

Property theorems only (helpers in `Iodata/Lemmas/Select.lean`).  The model
(`Iodata/Model/Select.lean`) is tied to `iodata/api.py` by the exhaustive correspondence stream
`select`/`selectin`; `Iodata/Gen/Registry.lean` (registry, patterns, entry points, declared
attribute lists, `IOData` attribute names, CLI help lists) is regenerated from the source on every run.
That the declared lists are honoured when a format runs is in `Props/C17Readers.lean` (a reader sets what it
declares `guaranteed`) and `Props/C08.lean` (a writer checks what it declares `required` before it opens the file).
-/
import Iodata.Lemmas.Select
import Iodata.Gen.Registry

namespace Iodata.Props.C17
open Iodata.Select

/-- 1. An explicit format always wins: the result does not depend on the file name at all. -/
theorem select_explicit_ignores_name (reg : List Module) (fn1 fn2 attr f : Str) :
    select reg fn1 attr (some f) = select reg fn2 attr (some f) := rfl

/-- 1b. … and it is the module registered under that name iff that module supports the operation;
a registered module without the operation and an unknown name are both errors. -/
theorem select_explicit_spec (reg : List Module) (fn attr f : Str) :
    (∀ n, select reg fn attr (some f) = .ok n →
        n = f ∧ ∃ m ∈ reg, m.name = f ∧ supports m attr = true) ∧
    (select reg fn attr (some f) = .error .unknownFormat ↔ ∀ m ∈ reg, m.name ≠ f) ∧
    (select reg fn attr (some f) = .error .unsupported →
        ∃ m ∈ reg, m.name = f ∧ supports m attr = false) := by
  simp only [select]
  split
  · next m hfind =>
    obtain ⟨hm, hn⟩ := find?_key_eq_some hfind
    by_cases hs : supports m attr = true
    · rw [if_pos hs]
      exact ⟨fun n h => ⟨by cases h; exact hn, m, hm, hn, hs⟩, iff_of_false nofun fun h => h m hm hn, nofun⟩
    · rw [if_neg hs]
      exact ⟨nofun, iff_of_false nofun fun h => h m hm hn, fun _ => ⟨m, hm, hn, by simpa using hs⟩⟩
  · next hfind =>
    exact ⟨nofun, iff_of_true rfl ((find?_key_eq_none _ reg f).mp hfind), nofun⟩

/-- 2. Without an explicit format the chosen module is the FIRST one in registry order that has a
pattern matching the base name and supports the operation — it does match, it does support the
operation, and no earlier module does both. -/
theorem select_guess_ok_iff (reg : List Module) (fn attr n : Str) :
    select reg fn attr none = .ok n ↔
      ∃ pre m post, reg = pre ++ m :: post ∧ m.name = n ∧
        (∃ p ∈ m.patterns, GlobMatch p (basename fn)) ∧ attr ∈ m.attrs ∧
        ∀ m' ∈ pre, ¬ ((∃ p ∈ m'.patterns, GlobMatch p (basename fn)) ∧ attr ∈ m'.attrs) := by
  have h : select reg fn attr none = .ok n ↔
      ∃ m, reg.find? (fun m => matchesAny m (basename fn) && supports m attr) = some m ∧ m.name = n := by
    simp only [select]
    split <;> simp [*]
  simp only [h, List.find?_eq_some_iff_append, Bool.not_eq_eq_eq_not, Bool.not_true, ← Bool.not_eq_true,
    matches_supports_iff]
  constructor
  · rintro ⟨m, ⟨hm, pre, post, hreg, hpre⟩, hn⟩
    exact ⟨pre, m, post, hreg, hn, hm.1, hm.2, hpre⟩
  · rintro ⟨pre, m, post, hreg, hn, h1, h2, hpre⟩
    exact ⟨m, ⟨⟨h1, h2⟩, pre, post, hreg, hpre⟩, hn⟩

/-- 3. Otherwise — no module both matches the base name and supports the operation — the call
raises `FileFormatError`; the only possible errors of the whole function are `FileFormatError`s. -/
theorem select_guess_err_iff (reg : List Module) (fn attr : Str) :
    (∃ e, select reg fn attr none = .error e) ↔
      ∀ m ∈ reg, ¬ ((∃ p ∈ m.patterns, GlobMatch p (basename fn)) ∧ attr ∈ m.attrs) := by
  have h : (∃ e, select reg fn attr none = .error e) ↔
      reg.find? (fun m => matchesAny m (basename fn) && supports m attr) = none := by
    simp only [select]
    split <;> simp [*]
  simp only [h, List.find?_eq_none, matches_supports_iff]

/-- 3b. Every error of the selection is a `FileFormatError`. -/
theorem select_error_class (e : Err) : e.cls = "FileFormatError" := by cases e <;> rfl

/-- 4. The result is a function of the base name (and `attr`, `fmt`) only. -/
theorem select_basename_only (reg : List Module) (fn1 fn2 attr : Str) (fmt : Option Str)
    (h : basename fn1 = basename fn2) : select reg fn1 attr fmt = select reg fn2 attr fmt := by
  unfold select; rw [h]

/-- 4b. Directories are irrelevant, whatever text they contain: the base name of `dir/name` is `name`. -/
theorem basename_dir (dir name : Str) (h : '/' ∉ name) : basename (dir ++ '/' :: name) = name := by
  unfold basename
  rw [List.reverse_append, List.reverse_cons, List.append_assoc,
    List.takeWhile_append_of_pos fun x hx => by
      simp only [bne_iff_ne, ne_eq]
      rintro rfl; exact h (List.mem_reverse.mp hx)]
  simp

/-- 4c. … so two paths with the same final component select the same format. -/
theorem select_ignores_directories (reg : List Module) (d1 d2 name attr : Str) (fmt : Option Str)
    (h : '/' ∉ name) :
    select reg (d1 ++ '/' :: name) attr fmt = select reg (d2 ++ '/' :: name) attr fmt :=
  select_basename_only _ _ _ _ _ (by rw [basename_dir _ _ h, basename_dir _ _ h])

/-- 5. `_select_input_module`: the module named `fmt` if registered, else `FileFormatError`;
the file name is not used. -/
theorem selectInput_spec (inputs : List Str) (fn fmt : Str) :
    (selectInput inputs fn fmt = .ok fmt ↔ fmt ∈ inputs) ∧
    (selectInput inputs fn fmt = .error .noInputFormat ↔ fmt ∉ inputs) ∧
    (∀ fn', selectInput inputs fn' fmt = selectInput inputs fn fmt) := by
  unfold selectInput
  by_cases h : fmt ∈ inputs <;> simp [h]

open Iodata.Gen.Registry

/-- 6. Module names are strictly increasing (discovery order is the sorted order, hence deterministic,
and names are unique), and so are the input-module names. -/
theorem registry_sorted :
    sortedStrict (registry.map (·.name)) = true ∧ (registry.map (·.name)).Nodup ∧
    sortedStrict inputModules = true := by
  decide +kernel

/-- 6a. The registered input formats are exactly the modules of the `iodata.inputs` package that define `write_input`
(a helper module such as `common` is not an input format: naming it gives `FileFormatError`, `selectInput_spec`;
that no file is touched then is `C19.run_errors`). -/
theorem input_modules_are_the_writers :
    inputModules = (inputPackage.filter (·.2)).map (·.1) := by
  decide +kernel

/-- 6b. Every registered pattern is inside the modelled subset of `fnmatch` syntax. -/
theorem patterns_in_subset :
    ∀ m ∈ registry, ∀ p ∈ m.patterns, '?' ∉ p ∧ '[' ∉ p ∧ ']' ∉ p := by
  decide +kernel

/-- 7. Declared capabilities name real attributes: what a loader declares (`guaranteed`, `ifpresent`) is a
keyword of `IOData.__init__`, what a dumper declares (`required`, `optional`) is readable on an `IOData`. -/
theorem declared_attributes_exist :
    ∀ d ∈ declared, (∀ a ∈ d.guaranteed ++ d.ifpresent, a ∈ initParams) ∧
                    (∀ a ∈ d.required ++ d.optional, a ∈ readable) := by
  decide +kernel

/-- 7b. Every entry point of every module carries declared lists, and only existing entry points do;
no attribute is declared twice for one entry point. -/
theorem declared_complete :
    (∀ m ∈ registry, ∀ a ∈ m.attrs, ∃ d ∈ declared, d.module = m.name ∧ d.entry = a) ∧
    (∀ d ∈ declared, ∃ m ∈ registry, m.name = d.module ∧ d.entry ∈ m.attrs) ∧
    (∀ d ∈ declared, d.all.Nodup) :=
  have h := declared_entries_of_eq registry declared (by decide +kernel)
  ⟨h.1, h.2, by decide +kernel⟩

/-- 8. The command-line help lists, for each of the four operations, exactly the modules that have it. -/
theorem cli_help_exact :
    ∀ op ∈ [['l','o','a','d','_','o','n','e'], ['d','u','m','p','_','o','n','e'],
            ['l','o','a','d','_','m','a','n','y'], ['d','u','m','p','_','m','a','n','y']],
      (cliHelp.find? (fun e => e.1 == op)).map (·.2) =
        some ((registry.filter (fun m => supports m op)).map (·.name)) := by
  decide +kernel

-- names matching several patterns, resolved by registry order and by the operation
example :
    select registry ['d','/','x','.','c','p','2','k','.','o','u','t'] ['l','o','a','d','_','o','n','e'] none
      = .ok ['c','p','2','k','l','o','g'] ∧
    select registry ['F','C','I','D','U','M','P','.','m','o','l','d','e','n'] ['l','o','a','d','_','o','n','e'] none
      = .ok ['f','c','i','d','u','m','p'] ∧
    select registry ['P','O','S','C','A','R','.','x','y','z'] ['d','u','m','p','_','m','a','n','y'] none
      = .ok ['x','y','z'] ∧
    select registry ['x','.','o','u','t'] ['d','u','m','p','_','o','n','e'] none = .error .noFormat ∧
    select registry ['x','.','X','Y','Z'] ['l','o','a','d','_','o','n','e'] none = .error .noFormat ∧
    select registry ['x','.','x','y','z','/'] ['l','o','a','d','_','o','n','e'] none = .error .noFormat ∧
    select registry ['q'] ['l','o','a','d','_','o','n','e'] (some ['w','f','n']) = .ok ['w','f','n'] ∧
    select registry ['q','.','x','y','z'] ['l','o','a','d','_','m','a','n','y'] (some ['w','f','n']) = .error .unsupported ∧
    select registry ['q','.','x','y','z'] ['l','o','a','d','_','o','n','e'] (some ['n','o']) = .error .unknownFormat := by
  decide +kernel

end Iodata.Props.C17
