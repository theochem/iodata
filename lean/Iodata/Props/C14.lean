/-
C14 — basis segmentation and orbital un-restriction preserve the physics.

Property theorems only (helpers: `Iodata/Lemmas/Segment.lean`, `Iodata/Lemmas/Orbitals.lean`).
The model (`Iodata/Model/Segment.lean`, orbitals from C12) is tied to `iodata/convert.py` and
`iodata/prepare.py` by the correspondence streams `seg`, `tou`, `prepseg`, `prepu` (object identity
compared through `is`) and by the control-flow skeleton in `Iodata/Gen/ConvertSkeleton.lean`.
-/
import Iodata.Lemmas.Segment
import Iodata.Gen.ConvertSkeleton


namespace Iodata.Props.C14
open Iodata.Orb Iodata.Seg

/-- Segmentation keeps the contracted function sets — centre, angular momentum, kind, exponents,
contraction coefficients — in the same order, for ALL bases and both values of `keep_sp`. -/
theorem contractions_preserved (keepSp : Bool) (b : Basis) :
    contractions (segment keepSp b) = contractions b :=
  contractions_segment keepSp b

/-- Hence the same basis functions in the same order, the same number of them, and any quantity
computed from the function list (overlap matrix, the meaning of every coefficient row) is identical. -/
theorem fns_preserved (keepSp : Bool) (b : Basis) :
    fns (segment keepSp b) = fns b ∧ nbasis (segment keepSp b) = nbasis b ∧
    ∀ {β : Type} (overlap : List (Contraction × Nat) → β), overlap (fns (segment keepSp b)) = overlap (fns b) := by
  have h : fns (segment keepSp b) = fns b := by simp [fns, contractions_segment]
  exact ⟨h, by simp [nbasis, h], fun ov => by rw [h]⟩

/-- For shells as the constructor accepts them no contraction is dropped by the `zip`, and the
new shells are well formed again. -/
theorem segment_wellformed (keepSp : Bool) (b : Basis) (hw : ∀ sh ∈ b, sh.WF) :
    (∀ sh ∈ b, (zip3 sh).length = sh.angmoms.length) ∧ ∀ s ∈ segment keepSp b, s.WF := by
  refine ⟨fun sh hs => zip3_length sh (hw sh hs), fun s hs => ?_⟩
  rw [segment_eq_flatMap, List.mem_flatMap] at hs
  obtain ⟨sh, hsh, hs⟩ := hs
  split at hs
  · rw [List.mem_singleton] at hs; exact hs ▸ hw sh hsh
  · exact wf_split sh s (hw sh hsh) hs

/-- After segmentation no generalized contraction is left (other than SP shells when kept), and
segmenting again returns the very same shell objects: idempotent. -/
theorem segment_idempotent (keepSp : Bool) (b : Basis) :
    (segment keepSp b).all (isKept keepSp) = true ∧
    segmentFlagged keepSp (segment keepSp b) = (segment keepSp b).map (fun sh => (sh, true)) ∧
    segment keepSp (segment keepSp b) = segment keepSp b :=
  ⟨segment_all_kept keepSp b,
   segmentFlagged_of_all_kept keepSp _ (segment_all_kept keepSp b),
   segment_of_all_kept keepSp _ (segment_all_kept keepSp b)⟩

/-- Identity short-cut: when nothing needs converting every shell of the result is the very
same object, and the pre-dump preparation returns the very same IOData object without warning. -/
theorem segment_identity (keepSp allow : Bool) (b : Basis) (h : b.all (isKept keepSp) = true) :
    segmentFlagged keepSp b = b.map (fun sh => (sh, true)) ∧ segment keepSp b = b ∧
    prepareSegmented (some b) keepSp allow = .same :=
  ⟨segmentFlagged_of_all_kept keepSp b h, segment_of_all_kept keepSp b h, by simp [prepareSegmented, h]⟩

/-- `prepare_segmented`: complete decision table.  No basis: `ValueError`; nothing to convert: the
same object; otherwise `PrepareDumpError` without `allow_changes`, and with it exactly one warning
and a basis with the same functions. -/
theorem prepare_segmented_spec (ob : Option Basis) (keepSp allow : Bool) :
    (ob = none → prepareSegmented ob keepSp allow = .valueError) ∧
    (∀ b, ob = some b → b.all (isKept keepSp) = true → prepareSegmented ob keepSp allow = .same) ∧
    (∀ b, ob = some b → b.all (isKept keepSp) = false → allow = false →
        prepareSegmented ob keepSp allow = .prepareDumpError) ∧
    (∀ b, ob = some b → b.all (isKept keepSp) = false → allow = true →
        ∃ b', prepareSegmented ob keepSp allow = .converted 1 b' ∧ fns b' = fns b ∧ b'.all (isKept keepSp) = true) := by
  refine ⟨fun h => by simp [prepareSegmented, h], fun b h hk => by simp [prepareSegmented, h, hk],
    fun b h hk ha => by simp [prepareSegmented, h, hk, ha], fun b h hk ha => ?_⟩
  exact ⟨segment keepSp b, by simp [prepareSegmented, h, hk, ha], (fns_preserved keepSp b).1, segment_all_kept keepSp b⟩

/-- Un-restriction of restricted orbitals (reached by any C12 history, with or without explicit
`occs_aminusb`, with or without occupations/coefficients/energies/irreps): a new, valid unrestricted
object with the same alpha and beta occupations, coefficients, energies and irreps, hence the same
electron count and spin polarisation. -/
theorem unrestricted_preserves {m : MO} (h : Reachable m) (hk : m.kind = .restricted) :
    ∃ m', toUnrestricted m = .ok (m', false) ∧ Reachable m' ∧ m'.kind = .unrestricted ∧
      occsa m' = occsa m ∧ occsb m' = occsb m ∧
      (∀ beta, view m' beta m'.coeffs = view m beta m.coeffs) ∧
      (∀ beta, view m' beta m'.energies = view m beta m.energies) ∧
      (∀ beta, view m' beta m'.irreps = view m beta m.irreps) ∧
      nelec m' = nelec m ∧ spinpol m' = spinpol m := by
  obtain ⟨m', h1, h2, h3, _, _, h6, h7, h8, h9, h10, h11, h12⟩ := toUnrestricted_restricted (inv_reachable h) hk
  exact ⟨m', h1, reachable_of_inv h2, h3, h6, h7, h8, h9, h10, h11, h12⟩

/-- the data the (spin) density is built from: alpha and beta occupations with their orbitals;
density = Σ occ·|orbital⟩⟨orbital| over both lists, spin density = alpha part − beta part -/
def densityData (m : MO) :=
  (occsa m, view m false m.coeffs, occsb m, view m true m.coeffs)

/-- … hence the same density and spin density. -/
theorem unrestricted_same_density {m : MO} (h : Reachable m) (hk : m.kind = .restricted) :
    ∃ m', toUnrestricted m = .ok (m', false) ∧ densityData m' = densityData m := by
  obtain ⟨m', h1, _, _, ha, hb, hc, _⟩ := unrestricted_preserves h hk
  exact ⟨m', h1, by simp [densityData, ha, hb, hc]⟩

/-- Unrestricted orbitals are returned as the very same object; so the conversion is idempotent
(the second call returns its argument); generalized orbitals are rejected with `ValueError`. -/
theorem unrestricted_identity_idempotent_rejects (m : MO) :
    (m.kind = .unrestricted → toUnrestricted m = .ok (m, true)) ∧
    (∀ m' same, m.kind ≠ .generalized → toUnrestricted m = .ok (m', same) → Inv m → toUnrestricted m' = .ok (m', true)) ∧
    (m.kind = .generalized → toUnrestricted m = .error .valueError) := by
  refine ⟨fun hk => by simp [toUnrestricted, hk], ?_, fun hk => by simp [toUnrestricted, hk]⟩
  intro m' same hg h hi
  rcases inv_kind_cases hi with hr | hu | hgen
  · obtain ⟨m'', h1, _, hk'', _⟩ := toUnrestricted_restricted hi hr
    rw [h1] at h; cases h
    simp [toUnrestricted, hk'']
  · simp [toUnrestricted, hu] at h
    obtain ⟨rfl, _⟩ := h
    simp [toUnrestricted, hu]
  · exact absurd hgen hg

/-- `prepare_unrestricted_aminusb`: complete decision table.  No orbitals or generalized ones:
`ValueError`; unrestricted or no `occs_aminusb`: the very same object; otherwise `PrepareDumpError`
without `allow_changes`, and with it exactly one warning and the converted orbitals of `unrestricted_preserves`. -/
theorem prepare_unrestricted_spec (mo : Option MO) (allow : Bool) :
    (mo = none → prepareUnrestricted mo allow = .valueError) ∧
    (∀ m, mo = some m → m.kind = .generalized → prepareUnrestricted mo allow = .valueError) ∧
    (∀ m, mo = some m → (m.kind = .unrestricted ∨ (m.kind = .restricted ∧ m.aminusb = none)) →
        prepareUnrestricted mo allow = .same) ∧
    (∀ m, mo = some m → m.kind = .restricted → m.aminusb ≠ none → allow = false →
        prepareUnrestricted mo allow = .prepareDumpError) ∧
    (∀ m, mo = some m → Reachable m → m.kind = .restricted → m.aminusb ≠ none → allow = true →
        ∃ m', prepareUnrestricted mo allow = .converted 1 (.ok m') ∧ toUnrestricted m = .ok (m', false) ∧
          densityData m' = densityData m ∧ nelec m' = nelec m ∧ spinpol m' = spinpol m) := by
  refine ⟨fun h => by simp [prepareUnrestricted, h], fun m h hk => by simp [prepareUnrestricted, h, hk],
    fun m h hk => ?_, fun m h hk hab ha => ?_, fun m h hr hk hab ha => ?_⟩
  · rcases hk with hk | ⟨hk, hab⟩
    · simp [prepareUnrestricted, h, hk]
    · simp [prepareUnrestricted, h, hk, hab]
  · cases hd : m.aminusb with
    | none => exact absurd hd hab
    | some d => simp [prepareUnrestricted, h, hk, hd, ha]
  · obtain ⟨m', h1, _, _, ha', hb', hc', _, _, hn, hs⟩ := unrestricted_preserves hr hk
    refine ⟨m', ?_, h1, by simp [densityData, ha', hb', hc'], hn, hs⟩
    cases hd : m.aminusb with
    | none => exact absurd hd hab
    | some d => simp [prepareUnrestricted, h, hk, hd, ha, h1, Except.map]

/-! ### tie to the source (regenerated each run) -/

open Iodata.Gen.ConvertSkeleton in
/-- the loop of `convert_to_segmented`: keep-condition, zip, new single-contraction shell, evolve -/
theorem gen_segment_skeleton :
    seg_keep = Skel.seg_keep ∧ seg_zip = Skel.seg_zip ∧ seg_new = Skel.seg_new ∧ seg_ret = Skel.seg_ret :=
  ⟨rfl, rfl, rfl, rfl⟩

open Iodata.Gen.ConvertSkeleton in
/-- guards, their order and actions, the single `warn` call and the conversion of both `prepare_*` -/
theorem gen_prepare_skeleton :
    prepseg_guards = Skel.prepseg_guards ∧ prepseg_actions = Skel.prepseg_actions ∧ prepseg_warns = 1 ∧
    prepseg_ret = Skel.prepseg_ret ∧ prepu_guards = Skel.prepu_guards ∧ prepu_actions = Skel.prepu_actions ∧
    prepu_warns = 1 ∧ prepu_ret = Skel.prepu_ret :=
  ⟨rfl, rfl, rfl, rfl, rfl, rfl, rfl, rfl⟩

open Iodata.Gen.ConvertSkeleton in
/-- guards and constructor arguments of `convert_to_unrestricted` -/
theorem gen_unrestricted_skeleton : tou_guards = Skel.tou_guards ∧ tou_ret = Skel.tou_ret :=
  ⟨rfl, rfl⟩

/-! ### non-vacuity -/

/-- an SP shell and a (d, d, s) generalized shell: 4 shells with `keep_sp`, 5 without; same functions -/
example :
    let b : Basis := [⟨0, [0, 1], ["c", "c"], [1, 1/2], [[1, 1/4], [1/2, 2]]⟩, ⟨1, [2, 2, 0], ["p", "c", "c"], [3/2], [[1], [1/2], [2]]⟩]
    (segmentFlagged true b).map Prod.snd = [true, false, false, false] ∧
    (segment false b).length = 5 ∧ nbasis b = 16 ∧ nbasis (segment false b) = 16 := by decide +kernel

/-- restricted orbitals with a negative alpha-minus-beta occupation: converted, spin polarisation 1 -/
example :
    let m : MO := { kind := .restricted, norba := some 1, norbb := some 1, occs := some [1], aminusb := some [-1] }
    (toUnrestricted m).map (fun p => (p.1.occs, p.2)) = .ok (some [0, 1], false) ∧
    prepareUnrestricted (some m) false = .prepareDumpError := by decide +kernel

end Iodata.Props.C14
