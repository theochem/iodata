/-
C15 — after one save/reload cycle, further cycles change nothing: second group of formats.

`norm` is what the first reload returns (`Props/C02W`); the theorems say that it is a fixed point: the reloaded object,
saved and reloaded again, is itself, and it stays inside the domain, so the second and third files coincide.
The theorems speak about quantised objects (every real carried as the digits the format prints).
-/
import Iodata.Props.C02
import Iodata.Props.C02W

namespace Iodata.Props.C15W
open Iodata.Chars Iodata.Decimal Iodata.Fmt Iodata.Gen.Layouts Iodata.Gen.LayoutsW

/-- FCIDUMP: the object returned by the first reload is a fixed point of save/reload and stays in the domain
(integral `nelec`/`spinpol` are not rounded again, canonical zeros stay, nothing appears outside the arrays). -/
theorem fcidump_norm_stable (L : FcidumpW.Layout) (o : FcidumpW.Obj) (h : FcidumpW.Dom L o) :
    FcidumpW.norm (FcidumpW.norm o).obj = FcidumpW.norm o ∧ FcidumpW.Dom L (FcidumpW.norm o).obj :=
  ⟨FcidumpW.norm_idem o, FcidumpW.dom_norm L o h⟩

/-- FCIDUMP: generations — if `x₁` is what the first reload returned, then saving and reloading `x₁` returns `x₁` again
(so every later file is the file written from `x₁`). -/
theorem fcidump_generations (L : FcidumpW.Layout) (hL : FcidumpW.LayoutOK L) (o : FcidumpW.Obj) (x₁ : FcidumpW.Loaded)
    (h : FcidumpW.Dom L o) (h₁ : FcidumpW.load L (FcidumpW.dump L o) = .ok x₁) :
    FcidumpW.load L (FcidumpW.dump L x₁.obj) = .ok x₁ :=
  (generations (FcidumpW.load L) (FcidumpW.dump L) FcidumpW.Loaded.obj FcidumpW.norm (FcidumpW.Dom L)
    (FcidumpW.load_dump L hL) (fun o _ => FcidumpW.norm_idem o) (FcidumpW.dom_norm L) o x₁ h h₁).1

/-- FCIDUMP: the source has the shape the theorems assume (layout side condition, the seven `print` calls, the
`int(round(…))` conversions that make the reloaded integers fixed points, reader literals and word positions). -/
theorem fcidump_current :
    FcidumpW.LayoutOK fcidumpL ∧ fcidump_writes = FcidumpW.expectedWrites fcidumpL ∧ fcidumpSource = FcidumpW.expectedSource :=
  C02W.fcidump_source_shape

/-! ## POSCAR (text layer)

The theorems are about the numbers *as printed* (cell rows in angstrom and direct coordinates, 16 decimals each): on these,
save/reload is the identity up to the grouping, and the grouping is idempotent.  The known last-digit drift of the real code
(`known_findings.json`: C15-poscar-last-digit-drift) is outside these statements in exactly two places, both floating-point
maps between an `IOData` object and the printed numbers: (1) `fl(fl(inv(cell))ᵀ·r)` followed by rounding to 16 decimals,
applied to `r = fl(s·cell)`, need not return the 16-decimal `s` it came from (error ≈ cond(cell)·2⁻⁵², above the half unit
5·10⁻¹⁷ of the last printed digit); (2) `fl(fl(c·Å)/Å)` printed with 16 decimals shows digits below the precision of a
double for |c| ≥ 1 Å.  In exact arithmetic both maps are the identity (`poscar_exact_cycle`), so the drift is confined to
the trailing digits of the numeric columns: titles, element/count lines, atom order and the line structure are stable
(`poscar_norm_stable`), which the `dump-gen2:poscar` stream checks byte for byte on the real code. -/

/-- POSCAR: the object returned by the first reload is a fixed point of save/reload (already grouped, title defaulted)
and stays in the domain. -/
theorem poscar_norm_stable (T : Tables) (L : PoscarW.Layout) (hL : PoscarW.LayoutOK L) (o : PoscarW.Obj) (h : PoscarW.Dom T o) :
    PoscarW.norm L (PoscarW.norm L o).obj = PoscarW.norm L o ∧ PoscarW.Dom T (PoscarW.norm L o).obj :=
  ⟨PoscarW.norm_idem L hL o, PoscarW.dom_norm T L hL o h⟩

/-- POSCAR: generations on the printed numbers. -/
theorem poscar_generations (T : Tables) (L : PoscarW.Layout) (hL : PoscarW.LayoutOK L) (o : PoscarW.Obj) (x₁ : PoscarW.Loaded)
    (h : PoscarW.Dom T o) (h₁ : PoscarW.load T L (PoscarW.dump T L o) = .ok x₁) :
    PoscarW.load T L (PoscarW.dump T L x₁.obj) = .ok x₁ :=
  (generations (PoscarW.load T L) (PoscarW.dump T L) PoscarW.Loaded.obj (PoscarW.norm L) (PoscarW.Dom T)
    (PoscarW.load_dump T L hL) (fun o _ => PoscarW.norm_idem L hL o) (PoscarW.dom_norm T L hL) o x₁ h h₁).1

/-- POSCAR: the source has the shape the theorems assume. -/
theorem poscar_current :
    PoscarW.LayoutOK poscarL ∧ poscar_writes = PoscarW.expectedWrites poscarL ∧ poscarSource = PoscarW.expectedSource :=
  have h := C02W.poscar_source_shape
  ⟨h.1, h.2.2.1, h.2.2.2.1⟩

/-- POSCAR: in exact arithmetic the two coordinate maps are inverse in both directions for every non-singular cell, so a
second cycle would print the same direct coordinates and reload the same Cartesian ones; the drift of the real code is
floating-point rounding only. -/
theorem poscar_exact_cycle (cell : Poscar.M3) (h : Poscar.det cell ≠ 0) (s r : Poscar.V3) :
    Poscar.toFrac cell (Poscar.toCart cell s) = s ∧ Poscar.toCart cell (Poscar.toFrac cell r) = r :=
  ⟨Poscar.toFrac_toCart cell h s, Poscar.toCart_toFrac cell h r⟩

/-- FCHK objects: the object returned by the first reload is a fixed point of save/reload (same attributes, same values,
same level of theory in the density labels, header already lower-cased) and stays in the domain; the second file holds a
sub-list of the fields of the first (attributes without a reader row are gone after the first cycle and stay gone). -/
theorem fchkobj_norm_stable (L : Fchk.Layout) (hL : Fchk.LayoutOK L) (hA : Chars.upper L.absent = L.absent) (Rn : Fchk.RunTypes)
    (hR : Fchk.RunTypesOK L Rn) (W R : List FchkO.Row) (o : FchkO.Obj)
    (hT : FchkO.TablesOK (FchkO.resolve (FchkO.levelOf L.absent o.lot) W) R) (h : FchkO.Dom L W o) :
    FchkO.norm L Rn W R (FchkO.norm L Rn W R o).obj = FchkO.norm L Rn W R o ∧ FchkO.Dom L W (FchkO.norm L Rn W R o).obj :=
  ⟨FchkO.norm_idem L hL hA Rn hR W R o hT h, FchkO.dom_norm L hL hA Rn hR W R o hT h⟩

/-- FCHK objects: generations. -/
theorem fchkobj_generations (L : Fchk.Layout) (hL : Fchk.LayoutOK L) (hA : Chars.upper L.absent = L.absent) (Rn : Fchk.RunTypes)
    (hR : Fchk.RunTypesOK L Rn) (W R : List FchkO.Row) (o : FchkO.Obj) (x₁ : FchkO.Loaded)
    (hT : FchkO.TablesOK (FchkO.resolve (FchkO.levelOf L.absent o.lot) W) R) (h : FchkO.Dom L W o)
    (h₁ : FchkO.load L Rn R (FchkO.dump L Rn W o) = .ok x₁) :
    FchkO.load L Rn R (FchkO.dump L Rn W x₁.obj) = .ok x₁ := by
  rw [FchkO.load_dump L hL Rn hR W R o hT h] at h₁
  obtain rfl : FchkO.norm L Rn W R o = x₁ := Except.ok.inj h₁
  rw [FchkO.load_dump L hL Rn hR W R _ (by rw [FchkO.level_norm L hL hA Rn W R o h]; exact hT) (FchkO.dom_norm L hL hA Rn hR W R o hT h),
    FchkO.norm_idem L hL hA Rn hR W R o hT h]

/-- FCHK: the tables probed from the source satisfy the hypotheses of the two theorems above at every level of theory:
in particular the writer's and the reader's quadrupole index vectors are inverse (otherwise xz/yz would alternate between
generations) and the mass unit factors cancel (otherwise the masses would grow by 1822.89 per cycle). -/
theorem fchk_tables_current :
    (∀ lv ∈ FchkO.levels ++ [fchkL.absent], FchkO.TablesOK (FchkO.resolve lv fchkW) fchkR) ∧
    Chars.upper fchkL.absent = fchkL.absent ∧ Fchk.LayoutOK fchkL ∧ Fchk.RunTypesOK fchkL fchkRunTypes :=
  ⟨fun lv h => (C02W.fchk_tables_ok.1 lv h).1, C02W.fchk_tables_ok.2, C02.fchk_layout_ok.1, C02.fchk_layout_ok.2.1⟩

/-- WFN: the arrays returned by the first reload, taken as an object again, are a fixed point of save/reload and stay in
the domain (orbital numbers are positions, the default title is kept, an absent `$MOSPIN` section stays absent). -/
theorem wfn_norm_stable (T : Tables) (L : WfnS.Layout) (hL : WfnS.LayoutOK L) (o : WfnS.Obj) (h : WfnS.Dom T L o) :
    WfnS.norm L (WfnS.norm L o).obj = WfnS.norm L o ∧ WfnS.Dom T L (WfnS.norm L o).obj :=
  ⟨WfnS.norm_idem L hL o, WfnS.dom_norm T L hL o h⟩

/-- WFN: generations at the section level; in particular the orbitals are written in the order they were read. -/
theorem wfn_generations (T : Tables) (L : WfnS.Layout) (hL : WfnS.LayoutOK L) (o : WfnS.Obj) (x₁ : WfnS.Loaded)
    (h : WfnS.Dom T L o) (h₁ : WfnS.load T L (WfnS.dump T L o) = .ok x₁) :
    WfnS.load T L (WfnS.dump T L x₁.obj) = .ok x₁ ∧ x₁.obj.mos = o.mos := by
  rw [WfnS.load_dump T L hL o h] at h₁
  cases h₁
  refine ⟨?_, ?_⟩
  · rw [WfnS.load_dump T L hL _ (WfnS.dom_norm T L hL o h), WfnS.norm_idem L hL]
  · rw [WfnS.obj_norm]

/-- WFN: the source has the shape the theorems assume. -/
theorem wfn_current : WfnS.LayoutOK wfnL ∧ wfnSource = WfnS.expectedSource wfnL :=
  ⟨C02W.wfn_source_shape.1, C02W.wfn_source_shape.2.2⟩

/-- WFX: the sections as the reader knows them (`normSec`: text lines without surrounding blanks, numbers as decoded by
`wfx_numbers`) are a fixed point: written again they give a file that `parse_wfx` reads into the same dictionary, they
stay in the domain, and normalising twice changes nothing. -/
theorem wfx_norm_stable (L : WfxS.Layout) (secs : List WfxS.Sec) (h : WfxS.Dom L secs) :
    WfxS.parse (WfxS.dump L (secs.map WfxS.normSec)) = WfxS.parse (WfxS.dump L secs) ∧
    WfxS.Dom L (secs.map WfxS.normSec) ∧ (secs.map WfxS.normSec).map WfxS.normSec = secs.map WfxS.normSec := by
  refine ⟨?_, WfxS.dom_normSec L secs h, ?_⟩
  · rw [WfxS.parse_dump L _ (WfxS.dom_normSec L secs h), WfxS.parse_dump L secs h, WfxS.norm_normSec]
  · rw [List.map_map]; apply List.map_congr_left; intro s _; exact WfxS.normSec_idem s

/-- WFX: the source has the shape the theorems assume. -/
theorem wfx_current : WfxS.LayoutOK wfxL ∧ wfx_writes = WfxS.expectedWrites wfxL ∧ wfx_parse_consts = WfxS.expectedParseConsts :=
  C02W.wfx_source_shape

/-- QCSchema molecule: after one cycle a further cycle returns the same object in everything but the provenance trail,
which grows by exactly one entry per save, by design; the reloaded object stays in the domain. -/
theorem qcschema_norm_stable (T : Tables) (K : Qcs.Keys) (known : List Str) (reshapes : Bool) (hK : Qcs.KeysOK K K known) (m : Qcs.Mol)
    (h : Qcs.Dom T K known reshapes m) :
    (Qcs.norm K.pass (Qcs.norm K.pass m).mol).dropProv = (Qcs.norm K.pass m).dropProv ∧
    (Qcs.norm K.pass (Qcs.norm K.pass m).mol).prov = Qcs.provGrow (Qcs.norm K.pass m).prov ∧
    Qcs.provLen (Qcs.norm K.pass m).prov = Qcs.provLen m.prov + 1 ∧ Qcs.Dom T K known reshapes (Qcs.norm K.pass m).mol := by
  obtain ⟨a, b, c⟩ := Qcs.norm_norm K.pass hK.2.2.2 m
  exact ⟨a, b, c, Qcs.dom_norm T K known reshapes hK m h⟩

/-- QCSchema molecule: generations on the model — the second reload is the first one with one more provenance entry. -/
theorem qcschema_generations (T : Tables) (K : Qcs.Keys) (known : List Str) (reshapes : Bool) (hK : Qcs.KeysOK K K known) (m : Qcs.Mol)
    (x₁ : Qcs.Loaded) (h : Qcs.Dom T K known reshapes m) (h₁ : Qcs.load T K known reshapes (Qcs.dump T K m) = .ok x₁) :
    ∃ x₂, Qcs.load T K known reshapes (Qcs.dump T K x₁.mol) = .ok x₂ ∧ x₂.dropProv = x₁.dropProv ∧ x₂.prov = Qcs.provGrow x₁.prov := by
  rw [Qcs.load_dump T K known reshapes hK m h] at h₁
  cases h₁
  refine ⟨_, Qcs.load_dump T K known reshapes hK _ (Qcs.dom_norm T K known reshapes hK m h), ?_, ?_⟩
  · exact (Qcs.norm_norm K.pass hK.2.2.2 m).1
  · exact (Qcs.norm_norm K.pass hK.2.2.2 m).2.1

/-- QCSchema molecule: the key tables in the source satisfy the hypotheses of the theorems above. -/
theorem qcschema_current : Qcs.KeysOK qcsW qcsR qcsKnown ∧ qcsExprs = Qcs.expectedExprs :=
  ⟨C02W.qcschema_keys_ok.2.1, C02W.qcschema_keys_ok.2.2.2.1⟩

end Iodata.Props.C15W
