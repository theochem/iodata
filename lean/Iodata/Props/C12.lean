/-
C12 — MolecularOrbitals and Shell keep their derived quantities consistent.

Property theorems only (helpers: `Iodata/Lemmas/Orbitals.lean`).  The model
(`Iodata/Model/Orbitals.lean`) is tied to `iodata/orbitals.py` and `iodata/basis.py` by the
correspondence streams `mo` / `shl` (same operation sequences on the real objects and on `step`,
all observables compared after every operation) and by `Iodata/Gen/OrbitalFields.lean`.

History statements quantify over ARBITRARY operation lists: `Reachable m` = some successful
construction followed by any `List Op`, where `Op` = construct | assignment of occs / coeffs /
energies / irreps / occs_aminusb | occsa= | occsb= | kind= | norba= | norbb=; they are proved through
the invariant `Inv` (`construct_ok`, `inv_step`, `inv_run`).
-/
import Iodata.Lemmas.Orbitals
import Iodata.Gen.OrbitalFields


namespace Iodata.Props.C12
open Iodata.Orb

/-- Every object reached by any history (including re-assignments of `kind`, `norba`, `norbb`)
satisfies the invariant: kind and counts fit, every array that is set has `norb` entries,
`occs_aminusb` only on restricted orbitals. -/
theorem invariant_all_histories {a m0 : MO} (hc : construct a = .ok m0) (ops : List Op) : Inv (run m0 ops) :=
  inv_run (inv_construct hc) ops

/-- Construction accepts exactly the consistent arguments (kind legal, counts fitting the kind,
every array of length `norb`, `occs_aminusb` only when restricted) and stores them unchanged;
everything else raises. -/
theorem construct_accepts_iff (a : MO) :
    (∃ m, construct a = .ok m) ↔ Inv a := by
  simp [construct_ok]

/-- In a reachable object an array of the wrong length is refused with `TypeError` (also for
`occs_aminusb`), `occs_aminusb` on non-restricted orbitals with `ValueError`; the object is unchanged. -/
theorem assignment_rejects {m : MO} (h : Reachable m) (hk : m.kind ≠ .generalized) (f : Fld) (a : List Rat) :
    ∃ n, norb m = some n ∧
      (a.length ≠ n → step m (.set f (some a)) = (m, some .typeError)) ∧
      (a.length = n → m.kind ≠ .restricted → step m (.set .aminusb (some a)) = (m, some .valueError)) := by
  have hi := inv_reachable h
  obtain ⟨n, hn⟩ := norb_isSome_of_counts hi.1 hk
  refine ⟨n, hn, fun ha => store_wrong_length hn f ha, fun ha hr => ?_⟩
  exact store_ab_wrong_kind hr ((shapeOk_iff hn _).mpr ha.symm)

/-- Restricted orbitals: alpha + beta occupations give the stored occupations entry by entry. -/
theorem occs_sum_restricted {m : MO} (h : Reachable m) (hk : m.kind = .restricted) {o : List Rat}
    (ho : m.occs = some o) :
    ∃ a b, occsa m = .ok (some a) ∧ occsb m = .ok (some b) ∧
      List.zipWith (· + ·) a b = o ∧ a.length = o.length ∧ b.length = o.length := by
  obtain ⟨a, b, ha, hb, hr, _⟩ := spin_facts (inv_reachable h) (by rw [hk]; decide) ho
  exact ⟨a, b, ha, hb, hr hk⟩

/-- Unrestricted orbitals: the stored occupations are the alpha ones followed by the beta ones,
`norba` resp. `norbb` of them. -/
theorem occs_sum_unrestricted {m : MO} (h : Reachable m) (hk : m.kind = .unrestricted) {o : List Rat}
    (ho : m.occs = some o) :
    ∃ a b, occsa m = .ok (some a) ∧ occsb m = .ok (some b) ∧
      a ++ b = o ∧ some a.length = m.norba ∧ some b.length = m.norbb := by
  obtain ⟨a, b, ha, hb, _, hu, _⟩ := spin_facts (inv_reachable h) (by rw [hk]; decide) ho
  exact ⟨a, b, ha, hb, hu hk⟩

/-- Electron count = sum of the stored occupations = alpha total + beta total;
spin polarisation = |alpha total − beta total| (`abs` also with `occs_aminusb`: fixed by iodata commit 4621cf7). -/
theorem nelec_and_spinpol {m : MO} (h : Reachable m) (hk : m.kind ≠ .generalized) {o : List Rat}
    (ho : m.occs = some o) :
    ∃ a b, occsa m = .ok (some a) ∧ occsb m = .ok (some b) ∧
      nelec m = some (sum o) ∧ nelec m = some (sum a + sum b) ∧
      spinpol m = .ok (some (absR (sum a - sum b))) := by
  obtain ⟨a, b, ha, hb, _, _, hs, hn, hsp⟩ := spin_facts (inv_reachable h) hk ho
  exact ⟨a, b, ha, hb, by rw [hn, hs], hn, hsp⟩

/-- Without occupations every derived quantity is `None`. -/
theorem no_occs_all_none {m : MO} (hk : m.kind ≠ .generalized) (ho : m.occs = none) :
    occsa m = .ok none ∧ occsb m = .ok none ∧ nelec m = none ∧ spinpol m = .ok none := by
  simp [occsa, occsb, nelec, spinpol, hk, ho]

/-- Alpha/beta views of coefficients (columns), energies and irreps are the documented slices:
the whole array for restricted orbitals, the first `norba` / remaining `norbb` entries otherwise. -/
theorem views_are_slices {m : MO} (h : Reachable m) (f : Fld) (_hf : f = .coeffs ∨ f = .energies ∨ f = .irreps)
    {x : List Rat} (hx : get m f = some x) :
    (m.kind = .restricted → view m false (some x) = .ok (some x) ∧ view m true (some x) = .ok (some x)) ∧
    (m.kind = .unrestricted → ∃ na nb, m.norba = some na ∧ m.norbb = some nb ∧
        view m false (some x) = .ok (some (x.take na)) ∧ view m true (some x) = .ok (some (x.drop na)) ∧
        (x.take na).length = na ∧ (x.drop na).length = nb) := by
  have hi := inv_reachable h
  constructor
  · intro hk; simp [view, hk]
  · intro hk
    obtain ⟨na, nb, hna, hnb, hn⟩ := counts_unrestricted hi.1 hk
    exact ⟨na, nb, hna, hnb, by simp [view, hk, hna], by simp [view, hk, hna], hi.take_drop hn hx⟩

/-- Restricted orbitals with occupations: `mo.occsa = v` (with `norb` entries) succeeds, reads
back as `v` exactly and leaves the beta occupations unchanged; symmetrically for `occsb`. -/
theorem set_spin_reads_back_restricted {m : MO} (h : Reachable m) (hk : m.kind = .restricted) {o : List Rat}
    (ho : m.occs = some o) {v : List Rat} (hv : v.length = o.length) :
    ((step m (.setOccsa v)).2 = none ∧ occsa (step m (.setOccsa v)).1 = .ok (some v) ∧
        occsb (step m (.setOccsa v)).1 = occsb m) ∧
    ((step m (.setOccsb v)).2 = none ∧ occsb (step m (.setOccsb v)).1 = .ok (some v) ∧
        occsa (step m (.setOccsb v)).1 = occsa m) := by
  have ea : step m (.setOccsa v) = setSpinRestricted m false v := by simp [step, setOccsa, hk]
  have eb : step m (.setOccsb v) = setSpinRestricted m true v := by simp [step, setOccsb, hk]
  rw [ea, eb]
  exact ⟨setSpinRestricted_reads_back (inv_reachable h) hk ho false hv,
    setSpinRestricted_reads_back (inv_reachable h) hk ho true hv⟩

/-- Restricted orbitals without occupations: `mo.occsa = v` creates them; beta reads zero. -/
theorem set_spin_fresh_restricted {m : MO} (h : Reachable m) (hk : m.kind = .restricted) (ho : m.occs = none)
    {n : Nat} (hn : m.norba = some n) {v : List Rat} (hv : v.length = n) :
    (step m (.setOccsa v)).2 = none ∧ occsa (step m (.setOccsa v)).1 = .ok (some v) ∧
      occsb (step m (.setOccsa v)).1 = .ok (some (v.map fun _ => 0)) :=
  setOccsa_restricted_fresh (inv_reachable h) hk ho hn hv

/-- Unrestricted orbitals with occupations: in-place assignment of the alpha (beta) block reads
back and leaves the other block unchanged. -/
theorem set_spin_reads_back_unrestricted {m : MO} (h : Reachable m) (hk : m.kind = .unrestricted) {o : List Rat}
    (ho : m.occs = some o) {na nb : Nat} (hna : m.norba = some na) (hnb : m.norbb = some nb) :
    (∀ v : List Rat, v.length = na →
      (step m (.setOccsa v)).2 = none ∧ occsa (step m (.setOccsa v)).1 = .ok (some v) ∧
        occsb (step m (.setOccsa v)).1 = occsb m) ∧
    (∀ v : List Rat, v.length = nb →
      (step m (.setOccsb v)).2 = none ∧ occsb (step m (.setOccsb v)).1 = .ok (some v) ∧
        occsa (step m (.setOccsb v)).1 = occsa m) := by
  have hi := inv_reachable h
  obtain ⟨htk, hdr⟩ := hi.take_drop (na := na) (nb := nb) (by simp [norb, hk, hna, hnb]) (f := .occs) ho
  constructor
  · intro v hv
    have hset : setOccsa m v = ({ m with occs := some (v ++ o.drop na) }, none) := by
      simp only [setOccsa, hk, reduceCtorEq, if_false, ho, hna, Option.getD_some]
      rw [assignSlice_eq_len (by rw [hv, htk])]
    simp only [step]; rw [hset]
    exact ⟨rfl, by simp [occsa, hk, hna, hv.symm], by simp [occsb, hk, hna, ho, hv.symm]⟩
  · intro v hv
    have hset : setOccsb m v = ({ m with occs := some (o.take na ++ v) }, none) := by
      simp only [setOccsb, hk, reduceCtorEq, if_false, ho, hna, Option.getD_some]
      rw [assignSlice_eq_len (by rw [hv, hdr])]
    simp only [step]; rw [hset]
    exact ⟨rfl, by simp [occsb, hk, hna, htk],
      by simp [occsa, hk, hna, ho, htk]⟩

/-- Generalized orbitals expose the combined quantities only: every spin-resolved accessor and
both setters raise `NotImplementedError` (setters change nothing), `nelec` is the plain total. -/
theorem generalized_refuses {m : MO} (hk : m.kind = .generalized) (x : Option (List Rat)) (v : List Rat) :
    occsa m = .error .notImpl ∧ occsb m = .error .notImpl ∧ spinpol m = .error .notImpl ∧
    view m false x = .error .notImpl ∧ view m true x = .error .notImpl ∧
    step m (.setOccsa v) = (m, some .notImpl) ∧ step m (.setOccsb v) = (m, some .notImpl) ∧
    nelec m = m.occs.map sum := by
  simp [occsa, occsb, spinpol, view, step, setOccsa, setOccsb, nelec, hk]

/-- A shell is accepted exactly when `coeffs` is a matrix of shape (nexp, ncon) and angmoms and
kinds have ncon entries; every refusal is a `TypeError`; assignments keep this. -/
theorem shell_accepts_iff (s : Shell) :
    ((∃ s', Shell.construct s = .ok s') ↔ s.Ok) ∧
    (∀ e, Shell.construct s = .error e → e = .typeError) := by
  refine ⟨by simp [Shell.construct_ok], fun e he => ?_⟩
  unfold Shell.construct at he
  cases hf : firstErr (shellChecks s) with
  | none => rw [hf] at he; cases he
  | some e' => rw [hf] at he; cases he; exact firstErr_shell_type s e hf

/-- … for every assignment history on an accepted shell. -/
theorem shell_invariant {s0 s : Shell} (h0 : Shell.construct s0 = .ok s) (ops : List ShellOp) :
    (ops.foldl (fun s op => (s.step op).1) s).Ok := by
  have hs : s.Ok := by obtain ⟨rfl, hs⟩ := Shell.construct_ok.mp h0; exact hs
  clear h0
  induction ops generalizing s with
  | nil => exact hs
  | cons op t ih => exact ih (shell_inv_step hs op)

/-- A shell's function count follows its angular momenta and kinds: the sum of (l+1)(l+2)/2 for
Cartesian and 2l+1 for pure (l ≥ 2) contractions; any other kind raises `TypeError`. -/
theorem nbasis_spec (s : Shell) :
    ((∀ p ∈ s.angmoms.zip s.kinds, legal p) → s.nbasis = .ok ((s.angmoms.zip s.kinds).map nfnSpec).sum) ∧
    ((∃ p ∈ s.angmoms.zip s.kinds, ¬ legal p) → s.nbasis = .error .typeError) := by
  unfold Shell.nbasis; rw [nbasisFrom_eq]
  exact ⟨fun h => by rw [if_pos h, Nat.zero_add], fun ⟨p, hp, hn⟩ => by rw [if_neg fun h => hn (h p hp)]⟩

/-! ### re-assignment of `kind`, `norba`, `norbb` after construction -/

/-- In a reachable object `mo.kind = k`, `mo.norba = v`, `mo.norbb = v` either raise and leave the
object unchanged, or store exactly the assigned value and the resulting object again satisfies the
invariant (kind fits the counts, every stored array has the new `norb` entries, `occs_aminusb` only
on restricted orbitals). -/
theorem reassign_raises_or_preserves {m : MO} (h : Reachable m) :
    (∀ k, (∃ e, step m (.setKind k) = (m, some e)) ∨
      (step m (.setKind k) = ({ m with kind := k }, none) ∧ Inv { m with kind := k })) ∧
    (∀ v, (∃ e, step m (.setNorba v) = (m, some e)) ∨
      (step m (.setNorba v) = ({ m with norba := v }, none) ∧ Inv { m with norba := v })) ∧
    (∀ v, (∃ e, step m (.setNorbb v) = (m, some e)) ∨
      (step m (.setNorbb v) = ({ m with norbb := v }, none) ∧ Inv { m with norbb := v })) := by
  have hi := inv_reachable h
  exact ⟨fun k => reassign_outcome hi _ (setKind_same m k),
    fun v => reassign_outcome hi _ (setNorba_same m v),
    fun v => reassign_outcome hi _ (setNorbb_same m v)⟩

/-- `mo.kind = k` on a reachable object is accepted exactly when the object with the new kind
satisfies the invariant, i.e. exactly when the constructor would accept it. -/
theorem setKind_accepted_iff {m : MO} (h : Reachable m) (k : Kind) :
    (step m (.setKind k)).2 = none ↔ Inv { m with kind := k } :=
  reassign_ok_iff (inv_reachable h) (setKind_same m k) (fun hi => vKind_of_counts k hi.1)

/-- … same for `mo.norba = v` -/
theorem setNorba_accepted_iff {m : MO} (h : Reachable m) (v : Option Nat) :
    (step m (.setNorba v)).2 = none ↔ Inv { m with norba := v } :=
  reassign_ok_iff (inv_reachable h) (setNorba_same m v) (fun hi => vNorba_of_counts v hi.1)

/-- … and `mo.norbb = v` -/
theorem setNorbb_accepted_iff {m : MO} (h : Reachable m) (v : Option Nat) :
    (step m (.setNorbb v)).2 = none ↔ Inv { m with norbb := v } :=
  reassign_ok_iff (inv_reachable h) (setNorbb_same m v) (fun hi => vNorbb_of_counts v hi.1)

/-- Unrestricted orbitals, spelled out: a new `norba` is accepted exactly when it is the stored
one or no array is stored; symmetrically for `norbb`.  (Restricted and generalized orbitals never
accept a different count, see `count_change_rejected`.) -/
theorem setNorb_unrestricted_accepted_iff {m : MO} (h : Reachable m) (hk : m.kind = .unrestricted) (k : Nat) :
    ((step m (.setNorba (some k))).2 = none ↔ (m.norba = some k ∨ ∀ f, get m f = none)) ∧
    ((step m (.setNorbb (some k))).2 = none ↔ (m.norbb = some k ∨ ∀ f, get m f = none)) := by
  have hi := inv_reachable h
  obtain ⟨na, nb, hna, hnb, hn⟩ := counts_unrestricted hi.1 hk
  constructor
  · have hc' : CountsOk { m with norba := some k } := countsOk_unrestricted hk rfl hnb
    have hn' : norb { m with norba := some k } = some (k + nb) := by simp [norb, hk, hnb]
    rw [setNorba_accepted_iff h, inv_counts_changed hi hk hc' (fun f => by cases f <;> rfl) hn hn', hna]
    simp only [Option.some.injEq, Nat.add_right_cancel_iff, eq_comm]
  · have hc' : CountsOk { m with norbb := some k } := countsOk_unrestricted hk hna rfl
    have hn' : norb { m with norbb := some k } = some (na + k) := by simp [norb, hk, hna]
    rw [setNorbb_accepted_iff h, inv_counts_changed hi hk hc' (fun f => by cases f <;> rfl) hn hn', hnb]
    simp only [Option.some.injEq, Nat.add_left_cancel_iff, eq_comm]

/-- The exception of a rejected re-assignment to a DIFFERENT value (any object `m`; `m'` is the
object with the new value): `ValueError` when the new kind and counts contradict each other,
otherwise `TypeError` when a stored array does not have the new `norb` entries, otherwise
`ValueError` for a stored `occs_aminusb` on a kind that is no longer restricted.  The object is
unchanged in every case. -/
theorem setKind_rejects (m : MO) (k : Kind) (hne : m.kind ≠ k) :
    (¬ CountsOk { m with kind := k } → step m (.setKind k) = (m, some .valueError)) ∧
    (CountsOk { m with kind := k } →
      (∃ f x, get m f = some x ∧ shapeOk { m with kind := k } x.length = false) →
      step m (.setKind k) = (m, some .typeError)) ∧
    (CountsOk { m with kind := k } →
      (∀ f x, get m f = some x → shapeOk { m with kind := k } x.length = true) → m.aminusb ≠ none →
      k ≠ .restricted → step m (.setKind k) = (m, some .valueError)) := by
  have hs : (m.kind == k) = false := beq_eq_false_iff_ne.mpr hne
  simp only [step, setKind, hs]
  exact reassign_rejects (fun f => by cases f <;> rfl) (vKind_of_counts k) (vKind_err k)

/-- … for `mo.norba = v` -/
theorem setNorba_rejects (m : MO) (v : Option Nat) (hne : m.norba ≠ v) :
    (¬ CountsOk { m with norba := v } → step m (.setNorba v) = (m, some .valueError)) ∧
    (CountsOk { m with norba := v } →
      (∃ f x, get m f = some x ∧ shapeOk { m with norba := v } x.length = false) →
      step m (.setNorba v) = (m, some .typeError)) ∧
    (CountsOk { m with norba := v } →
      (∀ f x, get m f = some x → shapeOk { m with norba := v } x.length = true) → m.aminusb ≠ none →
      m.kind ≠ .restricted → step m (.setNorba v) = (m, some .valueError)) := by
  have hs : (m.norba == v) = false := beq_eq_false_iff_ne.mpr hne
  simp only [step, setNorba, hs]
  exact reassign_rejects (fun f => by cases f <;> rfl) (vNorba_of_counts v) (vNorbab_err m true v)

/-- … and `mo.norbb = v` -/
theorem setNorbb_rejects (m : MO) (v : Option Nat) (hne : m.norbb ≠ v) :
    (¬ CountsOk { m with norbb := v } → step m (.setNorbb v) = (m, some .valueError)) ∧
    (CountsOk { m with norbb := v } →
      (∃ f x, get m f = some x ∧ shapeOk { m with norbb := v } x.length = false) →
      step m (.setNorbb v) = (m, some .typeError)) ∧
    (CountsOk { m with norbb := v } →
      (∀ f x, get m f = some x → shapeOk { m with norbb := v } x.length = true) → m.aminusb ≠ none →
      m.kind ≠ .restricted → step m (.setNorbb v) = (m, some .valueError)) := by
  have hs : (m.norbb == v) = false := beq_eq_false_iff_ne.mpr hne
  simp only [step, setNorbb, hs]
  exact reassign_rejects (fun f => by cases f <;> rfl) (vNorbb_of_counts v) (vNorbab_err m false v)

/-- Unrestricted orbitals with a stored array: a different `norba` or
`norbb` is refused with `TypeError`, nothing changes. -/
theorem count_change_with_arrays_rejected {m : MO} (h : Reachable m) (hk : m.kind = .unrestricted)
    {f : Fld} {a : List Rat} (hg : get m f = some a) (k : Nat) :
    (m.norba ≠ some k → step m (.setNorba (some k)) = (m, some .typeError)) ∧
    (m.norbb ≠ some k → step m (.setNorbb (some k)) = (m, some .typeError)) := by
  have hi := inv_reachable h
  obtain ⟨na, nb, hna, hnb, hn⟩ := counts_unrestricted hi.1 hk
  have hlen : a.length = na + nb := hi.len hg hn
  constructor
  · intro hne
    refine (setNorba_rejects m (some k) hne).2.1 ?_ ⟨f, a, hg, ?_⟩
    · exact countsOk_unrestricted hk rfl hnb
    · have : k ≠ na := fun e => hne (by rw [hna, e])
      -- the new `norb` is `k + nb`, the array has `na + nb` entries
      exact (shapeOk_false_iff (n := k + nb) (by simp [norb, hk, hnb]) _).mpr (by omega)
  · intro hne
    refine (setNorbb_rejects m (some k) hne).2.1 ?_ ⟨f, a, hg, ?_⟩
    · exact countsOk_unrestricted hk hna rfl
    · have : k ≠ nb := fun e => hne (by rw [hnb, e])
      exact (shapeOk_false_iff (n := na + k) (by simp [norb, hk, hna]) _).mpr (by omega)

/-- Counts that contradict the kind are refused with `ValueError`: `None` on (un)restricted
orbitals, a number on generalized ones, and on restricted orbitals any count different from the
other one (so a restricted object never changes its counts). -/
theorem count_change_rejected {m : MO} (h : Reachable m) :
    (m.kind ≠ .generalized → step m (.setNorba none) = (m, some .valueError) ∧
      step m (.setNorbb none) = (m, some .valueError)) ∧
    (m.kind = .generalized → ∀ k, step m (.setNorba (some k)) = (m, some .valueError) ∧
      step m (.setNorbb (some k)) = (m, some .valueError)) ∧
    (m.kind = .restricted → ∀ k, m.norba ≠ some k → step m (.setNorba (some k)) = (m, some .valueError) ∧
      step m (.setNorbb (some k)) = (m, some .valueError)) := by
  have hi := inv_reachable h
  refine ⟨fun hk => ?_, fun hk k => ?_, fun hk k hne => ?_⟩
  · simp [step, setNorba, setNorbb, reassign, vNorbab, hk]
  · simp [step, setNorba, setNorbb, reassign, vNorbab, hk]
  · obtain ⟨n, hna, hnb, _⟩ := counts_restricted hi.1 hk
    have h1 : ¬ (some k = m.norbb) := fun e => hne (by rw [hna, ← hnb, e])
    have h2 : ¬ (some k = m.norba) := fun e => hne e.symm
    simp [step, setNorba, setNorbb, reassign, vNorbab, hk, h1, h2]

/-- Kinds that contradict the counts: switching a reachable object to or from `generalized`
(or to an illegal name) is refused with `ValueError`; switching restricted orbitals with `n > 0`
orbitals and a stored array to `unrestricted` is refused with `TypeError`. -/
theorem kind_change_rejected {m : MO} (h : Reachable m) (k : Kind) (hne : m.kind ≠ k) :
    ((m.kind = .generalized ∨ k = .generalized ∨ k = .other) → step m (.setKind k) = (m, some .valueError)) ∧
    (m.kind = .restricted → k = .unrestricted → ∀ f a, get m f = some a → a ≠ [] →
      step m (.setKind k) = (m, some .typeError)) := by
  have hi := inv_reachable h
  have hc := hi.1
  constructor
  · intro hcase
    refine (setKind_rejects m k hne).1 ?_
    unfold CountsOk at hc ⊢
    rcases hcase with hg | hg | hg
    · rw [hg] at hc hne
      cases k <;> simp_all
    · subst hg
      cases hk : m.kind <;> simp_all <;> (intro hn; rw [hn] at hc; simp at hc)
    · subst hg; simp
  · intro hr hu f a hg hnil
    subst hu
    obtain ⟨n, hna, hnb, hn⟩ := counts_restricted hi.1 hr
    have hlen : a.length = n := hi.len hg hn
    refine (setKind_rejects m .unrestricted hne).2.1 ?_ ⟨f, a, hg, ?_⟩
    · exact countsOk_unrestricted rfl hna hnb
    · have : a.length ≠ 0 := fun e => hnil (List.eq_nil_of_length_eq_zero e)
      -- as unrestricted orbitals the object would have `n + n` orbitals, the array has `n` entries
      exact (shapeOk_false_iff (n := n + n) (by simp [norb, hna, hnb]) _).mpr (by omega)

/-! ### tie to the source (regenerated each run) -/

/-- field order and validators of `MolecularOrbitals` are the ones the model transcribes -/
theorem gen_mo_fields : Iodata.Gen.OrbitalFields.moFields = moFieldSpec := rfl

/-- exactly these accessors/setters start with the generalized refusal -/
theorem gen_refusing : Iodata.Gen.OrbitalFields.refusing = refusingSpec := rfl

/-- field order and validators of `Shell` -/
theorem gen_shell_fields : Iodata.Gen.OrbitalFields.shellFields = shellFieldSpec := rfl

/-! ### non-vacuity and recorded behaviours -/

/-- open-shell restricted orbitals: alpha [1,1,0], beta [1,0,0], spin polarisation 1 -/
example :
    let m : MO := { kind := .restricted, norba := some 3, norbb := some 3, occs := some [2, 1, 0] }
    construct m = .ok m ∧ occsa m = .ok (some [1, 1, 0]) ∧ occsb m = .ok (some [1, 0, 0]) ∧
      spinpol m = .ok (some 1) := by decide +kernel

/-- negative `occs_aminusb` gives a positive spin polarisation (witness of the defect fixed by iodata commit 4621cf7) -/
example :
    spinpol { kind := .restricted, norba := some 1, norbb := some 1, occs := some [1], aminusb := some [-1] }
      = .ok (some 1) := by decide +kernel

/-- a rejected and an accepted assignment in a reachable state -/
example :
    let m : MO := { kind := .unrestricted, norba := some 2, norbb := some 1, occs := some [1, 1, 0] }
    (step m (.set .energies (some [1, 2]))).2 = some .typeError ∧
    (step m (.setOccsa [1/2, 1/4])).1.occs = some [1/2, 1/4, 0] := by decide +kernel

/-- re-assignment, accepted side: without arrays an unrestricted object may change its counts,
the same value may always be re-assigned, and restricted <-> unrestricted is possible without arrays -/
example :
    let m : MO := { kind := .unrestricted, norba := some 2, norbb := some 1 }
    let w : MO := { kind := .unrestricted, norba := some 2, norbb := some 1, occs := some [1, 1, 0] }
    let r : MO := { kind := .restricted, norba := some 2, norbb := some 2 }
    construct m = .ok m ∧ construct w = .ok w ∧ construct r = .ok r ∧
    step m (.setNorba (some 3)) = ({ m with norba := some 3 }, none) ∧
    norb (step m (.setNorba (some 3))).1 = some 4 ∧
    step w (.setNorba (some 2)) = (w, none) ∧ step w (.setKind .unrestricted) = (w, none) ∧
    step r (.setKind .unrestricted) = ({ r with kind := .unrestricted }, none) ∧
    norb (step r (.setKind .unrestricted)).1 = some 4 := by decide +kernel

/-- re-assignment, rejected side: counts
of unrestricted orbitals with arrays, kind switches that double / halve `norb` or contradict the
counts, `occs_aminusb` surviving a switch away from restricted -/
example :
    let w : MO := { kind := .unrestricted, norba := some 2, norbb := some 1, occs := some [1, 1, 0] }
    let r : MO := { kind := .restricted, norba := some 2, norbb := some 2, energies := some [1, 2] }
    let g : MO := { kind := .generalized, norba := none, norbb := none, occs := some [1, 0] }
    let z : MO := { kind := .restricted, norba := some 0, norbb := some 0, occs := some [], aminusb := some [] }
    let u : MO := { kind := .unrestricted, norba := some 2, norbb := some 1 }
    construct w = .ok w ∧ construct r = .ok r ∧ construct g = .ok g ∧ construct z = .ok z ∧ construct u = .ok u ∧
    step w (.setNorba (some 3)) = (w, some .typeError) ∧ step w (.setNorbb (some 0)) = (w, some .typeError) ∧
    step w (.setNorba none) = (w, some .valueError) ∧
    step r (.setKind .unrestricted) = (r, some .typeError) ∧ step r (.setNorba (some 3)) = (r, some .valueError) ∧
    step g (.setKind .restricted) = (g, some .valueError) ∧ step g (.setNorba (some 2)) = (g, some .valueError) ∧
    step z (.setKind .unrestricted) = (z, some .valueError) ∧
    step u (.setKind .restricted) = (u, some .valueError) ∧ step u (.setKind .other) = (u, some .valueError) := by
  decide +kernel

/-- the hypotheses of `count_change_with_arrays_rejected` / `setNorb_unrestricted_accepted_iff` are
satisfiable: a reachable unrestricted object with a stored array, reached through re-assignments -/
example : Reachable (run { kind := .restricted, norba := some 1, norbb := some 1 }
    [.setKind .unrestricted, .setNorba (some 2), .set .occs (some [1, 1, 0])]) ∧
    run { kind := .restricted, norba := some 1, norbb := some 1 }
      [.setKind .unrestricted, .setNorba (some 2), .set .occs (some [1, 1, 0])] =
    { kind := .unrestricted, norba := some 2, norbb := some 1, occs := some [1, 1, 0] } :=
  ⟨⟨{ kind := .restricted, norba := some 1, norbb := some 1 }, _, _, by decide +kernel, rfl⟩, by decide +kernel⟩

/-- numpy broadcasting is part of the model: a one-element right-hand side fills the block -/
example :
    let m : MO := { kind := .restricted, norba := some 2, norbb := some 2, occs := some [2, 1] }
    (step m (.setOccsa [1])).1.occs = some [2, 1] ∧ (step m (.setOccsa [1])).1.aminusb = some [0, 1] := by
  decide +kernel

/-- shells: SP shell has 4 functions; a pure p contraction is refused -/
example : (Shell.mk [0, 1] ["c", "c"] 2 [2, 2]).nbasis = .ok 4 ∧
    (Shell.mk [0, 1] ["c", "p"] 2 [2, 2]).nbasis = .error .typeError := by decide +kernel

end Iodata.Props.C12
