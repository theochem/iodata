/-
C09 — dumping never alters the caller's data.

Proof part: (1) the effect summary regenerated from /repo's source on every run
(`Gen/Effects.lean`, produced by `harness/vh/effects.py`) contains no argument-rooted store,
in-place operation or mutating call except the reviewed, named exceptions below; (2) the frame
lemma: a program whose writes all avoid a set of locations leaves them unchanged — so, given the
summary is complete (trusted, cross-checked dynamically by deep snapshots on every run), every
location reachable from the argument keeps its value across dump_one / dump_many / write_input.
-/
import Iodata.Model.Effects
import Iodata.Gen.Effects

namespace Iodata.Props.C09
open Iodata.Effects

/-- Reviewed argument-rooted sites that are not changes of the caller's data:
* the lazy default `self.atcorenums = self.atnums.astype(float)` inside the `atcorenums` getter
  (the property statement exempts it explicitly);
* `connections[i].append(j)` in `pdb.dump_one`: `connections` is a fresh list of fresh lists
  (`[[] for _ in range(natom)]`); the analysis marks it because the appended values come from
  `data.bonds` (numpy scalars, immutable). -/
def allowed : List (String × String × String × String) :=
  [ ("iodata.iodata", "IOData.atcorenums", "store-attr", "self.atcorenums"),
    ("iodata.formats.pdb", "dump_one", "mutcall:append", "connections[iatom0]"),
    ("iodata.formats.pdb", "dump_one", "mutcall:append", "connections[iatom1]") ]

/-- 1. No function reachable from the dump API stores into, mutates in place, or calls a mutating
method on anything that may alias the caller's objects (outside the reviewed list). -/
theorem no_argument_effects :
    (Iodata.Gen.Effects.sites.filter (fun s => s.root == .arg)).all (fun s => allowed.contains s.key) = true := by
  decide +kernel

/-- 2. Frame lemma: if no executed write targets a location in `S`, every location in `S` keeps
its value, for every program (any length) and every initial heap. -/
theorem frame {V : Type} (S : Loc → Prop) (prog : List (Stmt V))
    (hno : ∀ st ∈ prog, ∀ site l v, st = Stmt.write site l v → ¬ S l) :
    ∀ (h : Heap V) (l : Loc), S l → exec h prog l = h l := by
  induction prog with
  | nil => intro h l _; rfl
  | cons st rest ih =>
    intro h l hl
    show exec (step h st) rest l = h l
    rw [ih (fun st' hm => hno st' (List.mem_cons_of_mem _ hm)) (step h st) l hl]
    cases st with
    | skip => rfl
    | write site l' v =>
      have hne : l ≠ l' := fun e => hno _ List.mem_cons_self site l' v rfl (e ▸ hl)
      simp [step, hne]

/-- 2b. Site-level reading of the frame lemma: if every executed write comes from a site listed in
the summary, and the summary's argument-rooted sites only write to `allowedLocs`, then every
argument-reachable location outside `allowedLocs` is unchanged. -/
theorem argument_unchanged {V : Type} (reach allowedLocs : Loc → Prop) (argSite : Nat → Prop)
    (prog : List (Stmt V))
    (hsites : ∀ st ∈ prog, ∀ site l v, st = Stmt.write site l v → reach l → argSite site)
    (hallowed : ∀ st ∈ prog, ∀ site l v, st = Stmt.write site l v → argSite site → allowedLocs l) :
    ∀ (h : Heap V) (l : Loc), reach l → ¬ allowedLocs l → exec h prog l = h l := by
  intro h l hr hna
  apply frame (fun l => reach l ∧ ¬ allowedLocs l) prog _ h l ⟨hr, hna⟩
  intro st hst site l' v hw hcontra
  exact hcontra.2 (hallowed st hst site l' v hw (hsites st hst site l' v hw hcontra.1))

/-- non-vacuity: a write to a location outside `S` leaves `S` alone, a write into it does not -/
example : exec (fun _ => 0) [Stmt.write 0 5 7, Stmt.skip] 3 = 0 := by decide
example : exec (fun _ => 0) [Stmt.write 0 5 7, Stmt.skip] 5 = 7 := by decide

end Iodata.Props.C09
