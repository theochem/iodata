/-
C07 — loading ends in a valid object or a LoadError, nothing else (the API funnel part).

Property theorems only, all about the reference terms `Ref.loadOne`, `Ref.loadMany` (`open Iodata.Flow.Ref`);
`flow_matches_*` tie the terms generated from the source to them.  Model: `Iodata/Model/Flow.lean` (the same `exec` the driver runs for the `flow`
correspondence stream), reference terms and lemmas in `Iodata/Lemmas/Flow.lean`, `FlowLoad.lean`.

The theorems quantify over ALL behaviours of the format's parser: any sequence of `next(lit)` / `lit.back()`
calls (including reading past the end of the file), returning or raising any class at any point, any number
of frames of a `load_many` generator, any way it ends, PEP 479 inside it, any outcome of `IOData(**dict)`,
and over every consumption pattern of the user (exhaust, or take `k` frames and discard).

Not covered here: termination and outcome classes of the individual format parsers on arbitrary file
contents.  `Props/C07Readers.lean` proves them for the formats with a raw reader model; for the others that
part is direct search on mutated corpus files (see the evidence file).
-/
import Iodata.Lemmas.FlowLoad
import Iodata.Gen.ApiFlow

namespace Iodata.Props.C07
open Iodata.Flow Iodata.Flow.Ref

/-- api.py `load_one` has the transcribed shape. -/
theorem flow_matches_load_one : Gen.ApiFlow.loadOne = Ref.loadOne := rfl
/-- api.py `load_many` has the transcribed shape. -/
theorem flow_matches_load_many : Gen.ApiFlow.loadMany = Ref.loadMany := rfl

/-- **LineIterator lemma** (utils.py:69-114).  After any sequence of `next` / `back` calls — including a
`next` that runs into the end of the file, which still increments the counter before `StopIteration`
leaves — `lineno = #next − #back`. -/
theorem lineiterator_lineno (ops : List Bool) (nlines : Nat) :
    (runOps ops { nlines := nlines } []).2.1.lineno = lineCount (runOps ops { nlines := nlines } []).2.2 :=
  (runOps_spec ops { nlines := nlines } [] (by simp [lineCount])).1

/-- **load_one_funnel.**  After a successful format selection and `open`, whatever the parser and the
`IOData` constructor do: `load_one` returns an object or raises `LoadError` (or lets a non-`Exception`
such as KeyboardInterrupt through); a `LoadError` made by the funnel carries `lineno = #next − #back`
(one raised by the parser itself is passed on unchanged: `ln = none` here); the file system is unchanged; the
file was opened once and the last event is its `close`. -/
theorem load_one_funnel (b : Beh) (path : Nat) (fs : FS) (hs : b.select = none) (ho : b.openFail = none) :
    ∃ o st', runLoadOne loadOne b path fs = (o, st') ∧ st'.fs = fs ∧
      (∃ evs, st'.trace = .close :: (evs ++ [.openR]) ∧ LoadEvs evs) ∧
      (o = .ret ∨ (∃ ln, o = .raised .load ln ∧ (ln = none ∨ ln = some (lineCount st'.trace)))
        ∨ (∃ e, o = .raised e none ∧ e.isException = false)) := by
  obtain ⟨o, st', h1, h2, h3, h4, h5⟩ := load_one_master b path fs hs ho
  refine ⟨o, st', h1, h2, h3, ?_⟩
  rcases h4 with h | h | h | h
  · exact absurd h h5
  · exact Or.inl h
  · exact Or.inr (Or.inl h)
  · exact Or.inr (Or.inr h)

/-- when no format can be selected the selection error (C17: `FileFormatError`) is the outcome and the file
is never opened. -/
theorem load_one_select (b : Beh) (path : Nat) (fs : FS) (e : Exc) (hs : b.select = some e) :
    (runLoadOne loadOne b path fs).1 = .raised e none ∧ (runLoadOne loadOne b path fs).2.trace = [] := by
  rw [runLoadOne, loadOne, exec_select_fail { b := b, path := path } _ _ _ _ _ e hs]; exact ⟨rfl, rfl⟩

/-- **load_many_funnel.**  Once the generator has been started: every way the iteration can end — the
format generator is exhausted, raises (any class, `StopIteration` turned into `RuntimeError` by PEP 479
inside a generator), the constructor raises for some frame, or the user discards the generator after `k`
frames — ends normally or with `LoadError` (or a non-`Exception`), with the file closed as the last event.
By induction over the frames. -/
theorem load_many_funnel (b : Beh) (path : Nat) (fs : FS) (hs : b.select = none) (ho : b.openFail = none)
    (hq : b.quota ≠ some 0) :
    ∃ o st', runLoadMany loadMany b path fs = (o, st') ∧ st'.fs = fs ∧
      (∃ evs, st'.trace = .close :: (evs ++ [.openR]) ∧ LoadEvs evs) ∧
      (o = .normal ∨ o = .ret ∨ (∃ ln, o = .raised .load ln ∧ (ln = none ∨ ln = some (lineCount st'.trace)))
        ∨ (∃ e, o = .raised e none ∧ e.isException = false)) :=
  load_many_master b path fs hs ho hq

/-- a `load_many` generator that is created and discarded without being started opens nothing. -/
theorem load_many_unstarted (b : Beh) (path : Nat) (fs : FS) (hq : b.quota = some 0) :
    (runLoadMany loadMany b path fs).1 = .normal ∧ (runLoadMany loadMany b path fs).2.trace = [] := by
  unfold runLoadMany; simp [hq]

/-- selection failure of `load_many` surfaces at the first `next()`; nothing is opened. -/
theorem load_many_select (b : Beh) (path : Nat) (fs : FS) (hs : b.select = some .fileFormat)
    (hq : b.quota ≠ some 0) :
    (runLoadMany loadMany b path fs).1 = .raised .fileFormat none ∧ (runLoadMany loadMany b path fs).2.trace = [] := by
  rw [runLoadMany, if_neg hq, loadMany, exec_select_fail { b := b, path := path } _ _ _ _ _ _ hs]; exact ⟨rfl, rfl⟩

/-! ### non-vacuity: concrete behaviours evaluated by the kernel on the generated terms -/

/-- the parser reads 2 lines, pushes one back, reads again and raises `ValueError`: `LoadError` at line 2. -/
example :
    let r := runLoadOne Gen.ApiFlow.loadOne { nlines := 3, items := [{ ops := [true, true, false, true], res := some .other }] } 0 (fun _ => none)
    r.1 = .raised .load (some 2) ∧ r.2.trace = [.close, .next, .back, .next, .next, .openR] := by decide +kernel

/-- reading past the end of a 1-line file: "File ended before all data was read" with lineno 2. -/
example :
    let r := runLoadOne Gen.ApiFlow.loadOne { nlines := 1, items := [{ ops := [true, true] }] } 0 (fun _ => none)
    r.1 = .raised .load (some 2) ∧ r.2.trace.head? = some .close := by decide +kernel

/-- the user takes one of three frames and discards the generator: closed. -/
example :
    let r := runLoadMany Gen.ApiFlow.loadMany
      { nlines := 9, items := [{ ops := [true] }, { ops := [true] }, { ops := [true] }], quota := some 1 } 0 (fun _ => none)
    r.1 = .normal ∧ r.2.trace = [.close, .yield, .ctor, .next, .openR] := by decide +kernel

/-- a format generator that runs off the end of the file: PEP 479 `RuntimeError` ⇒ `LoadError`. -/
example :
    let r := runLoadMany Gen.ApiFlow.loadMany { nlines := 1, items := [{ ops := [true] }, { ops := [true] }] } 0 (fun _ => none)
    r.1 = .raised .load (some 2) ∧ r.2.trace.head? = some .close := by decide +kernel

end Iodata.Props.C07
