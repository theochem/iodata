/-
C03 — loaded values are exactly what the file says under the published layout.

Property theorems only.  For XYZ and GRO an *independent renderer of the published layout* (`specRender`,
hand-written from the format documents) and the theorem `load (specRender m) = ok m` for every model `m`; for the
column formats SDF V2000 / PDB v3.3 the writer model run on a layout whose columns are shown to be the published ones
(`…_columns_match_spec`); for the others the writer model with the published widths.
-/
import Iodata.Lemmas.Fmt.Xyz
import Iodata.Lemmas.Fmt.Sdf
import Iodata.Lemmas.Fmt.Pdb
import Iodata.Lemmas.Fmt.PdbConect
import Iodata.Lemmas.Fmt.Fchk
import Iodata.Lemmas.Fmt.Cube
import Iodata.Lemmas.Fmt.Mol2
import Iodata.Lemmas.Fmt.Fcidump
import Iodata.Lemmas.Fmt.Poscar
import Iodata.Lemmas.Fmt.Gro
import Iodata.Props.C02

namespace Iodata.Props.C03
open Iodata.Chars Iodata.Decimal Iodata.Fmt Iodata.Gen.Layouts

/-! ## XYZ (free format) -/

/-- XYZ: every well-formed free-format file — any blank runs before/between/after the fields, the
element given as symbol in any case or as atomic number, numbers of any magnitude and sign — loads as
the object it denotes: the i-th line's element and numbers stay attached to atom i, in order. -/
theorem xyz_load_spec (T : Tables) (L : Xyz.Layout) (m : Xyz.SpecObj) (h : Xyz.SpecOK T L m) :
    Xyz.load T L (Xyz.specRender T L m) = .ok m.obj :=
  Xyz.load_spec T L m h

/-- XYZ: each element of the table is recognised in all four spellings (`Cl`, `CL`, `cl`, `17`). -/
theorem xyz_spec_elements_ok :
    ∀ z ∈ List.range' 1 118, ∀ v ∈ [0, 1, 2, 3], Xyz.okEl tables z v = true :=
  fun _ hz v _ => let ⟨_, h⟩ := tables_row hz; Xyz.okEl_of_row h v

/-- non-vacuity: a spec file with tabs and several blanks as separators. -/
example : Xyz.SpecOK tables xyzL
    ⟨[' '], [' ', ' '], [], ['w','a','t','e','r',' ','1'], [' '],
     [⟨8, 1, ['\t'], [([' ', ' '], ⟨true, 12345678901⟩), (['\t'], ⟨false, 0⟩), ([' '], ⟨false, 99999999999999⟩)], []⟩,
      ⟨1, 3, [], [([' '], ⟨false, 5⟩), ([' '], ⟨true, 0⟩), ([' ', '\t'], ⟨false, 7⟩)], [' ']⟩]⟩ := by
  decide +kernel

/-! ## SDF (CTfile V2000 column table) -/

/-- SDF: the slices of the reader in the source are the published columns (counts 1-3, 4-6; atom
1-10, 11-20, 21-30, 32-34; bond 1-3, 4-6, 7-9), as are the columns of the hand-written spec layout. -/
theorem sdf_reader_columns_match_spec :
    Sdf.readerColumns sdfL = Sdf.specColumns ∧ Sdf.readerColumns Sdf.specV2000 = Sdf.specColumns ∧
    sdfL.coordD = Sdf.specV2000.coordD ∧ Sdf.LayoutOK Sdf.specV2000 := by
  simp only [Sdf.specV2000, Sdf.LayoutOK, toList_lit (by with_reducible rfl)]
  decide +kernel

/-- SDF: a file rendered from the published column table is loaded as the model it was rendered from —
every model the columns can hold, touching fields included — by any reader whose slices and decimals are
the published ones (the reader in the source is one: `sdf_reader_columns_match_spec`). -/
theorem sdf_load_spec (T : Tables) (L : Sdf.Layout) (hd : L.coordD = Sdf.specV2000.coordD)
    (hs : Sdf.readerColumns L = Sdf.specColumns) (m : Sdf.Obj) (h : Sdf.Dom T Sdf.specV2000 m) :
    Sdf.load T L (Sdf.dump T Sdf.specV2000 m) = .ok (Sdf.norm Sdf.specV2000 m) := by
  rw [Sdf.load_congr T L Sdf.specV2000 hd (hs.trans sdf_reader_columns_match_spec.2.1.symm)]
  exact Sdf.load_dump T Sdf.specV2000 sdf_reader_columns_match_spec.2.2.2 m h

/-- non-vacuity: the bond record `101110  1  0  0  0  0` of the published layout is in the domain and
is read as the bond (100, 109, 1). -/
example : Sdf.dumpBond Sdf.specV2000 ⟨100, 109, 1⟩ = "101110  1  0  0  0  0\n".toList ∧
    Sdf.loadBond sdfL (Sdf.dumpBond Sdf.specV2000 ⟨100, 109, 1⟩) = .ok ⟨100, 109, 1⟩ := by
  simp only [Sdf.specV2000, toList_lit (by with_reducible rfl)]
  decide +kernel

/-! ## PDB (wwPDB format v3.3 column tables)

Every file rendered from the published ATOM/CONECT column tables loads as the model: the reader's slices
*are* the published columns (`pdb_reader_columns_match_spec`, by computation on the slices extracted from the
source); any ATOM record laid out in those columns is cut into its model atom (`pdb_spec_atom_record`), in
either spelling of the element (`Cl`/`CL`); any CONECT record with serials of up to five digits — touching
fields included — gives the bonds to the larger partners; whole files (`pdb_load_spec`). -/

/-- PDB: the reader's ATOM and CONECT slices are the columns of the specification. -/
theorem pdb_reader_columns_match_spec :
    Pdb.readerColumns pdbL = Pdb.specAtomColumns ∧ Pdb.conectColumns pdbL = Pdb.specConectColumns ∧ pdbL.titleFrom = 10 := by
  decide +kernel

/-- PDB: an ATOM record in the published columns is cut into exactly its atom (for every layout whose
writer columns — here: the renderer of the published table — equal the reader slices). -/
theorem pdb_spec_atom_record (T : Tables) (L : Pdb.Layout) (hL : Pdb.LayoutOK L) (serial : Nat) (a : Pdb.Atom)
    (hser : (natToDec serial).length ≤ L.serialW) (ha : Pdb.AtomOK T L a) :
    Pdb.parseAtom T L (Pdb.dumpAtom T L serial a) = .ok a :=
  Pdb.parseAtom_dumpAtom T L hL serial a hser ha

/-- PDB: a file in the published layout (TITLE, ATOM, CONECT with at most four partners per record, END)
loads as its model, bonds as zero-based pairs `(a, b)`, `a < b`, for every reader whose slices are the
columns the renderer fills. -/
theorem pdb_load_spec (T : Tables) (L : Pdb.Layout) (hL : Pdb.LayoutOK L) (hC : Pdb.ConectOK L) (m : Pdb.Obj)
    (h : Pdb.DomB T L m) : Pdb.load T L (Pdb.dump T L m) = .ok (Pdb.norm L m) :=
  Pdb.load_dump_bonds T L hL hC m h

/-- PDB: the layout whose renderer the theorem speaks about has the published CONECT columns. -/
theorem pdb_spec_conect_columns : Pdb.ConectOK pdbL ∧ Pdb.conectColumns pdbL = Pdb.specConectColumns :=
  ⟨C02.pdb_layout_ok.2.1, pdb_reader_columns_match_spec.2.1⟩

/-- PDB: upper-case element columns (`CL`, `FE`: the wwPDB spelling; not recognised before iodata commit ec6ad10) denote the element. -/
theorem pdb_upper_case_elements :
    ∀ z ∈ List.range' 1 118, tables.num? (title (upper (tables.sym z))) = some z :=
  fun _ hz => let ⟨_, h⟩ := tables_row hz; Pdb.num_title_upper_of_row h

/-- PDB (counter-example before iodata commit ce4a9da): CONECT serials ≥ 10000 in the published columns. -/
example : Pdb.parseConect pdbL "CONECT1000010001\n".toList = .ok [(9999, 10000)] := by
  simp only [toList_lit (by with_reducible rfl)]
  decide +kernel

/-! ## Fortran `D` exponents -/

/-- a real printed by Fortran as `±D.DDDD…D±XX` is read, after the readers' `.replace("D", "E")`, as the printed
mantissa/exponent pair (WFN sections, Molden exponents/coefficients, Gaussian-log integrals use this spelling). -/
theorem sci_fortran_D (sp : Bool) (d : Nat) (x : Sci) (hd : 0 < d) (hm : x.man < 10 ^ (d + 1)) (p q : Str)
    (hp : AllWs p) (hq : AllWs q) : pySci d (replaceD (p ++ (sciCoreC sp 'D' d x ++ q))) = some x :=
  pySci_replaceD sp d x hd hm p q hp hq

/-! ## FCHK (Gaussian's formatted checkpoint: `A40,3X,A1,5X,I12` / `E22.15`; `A40,3X,A1,3X,'N=',I12`; `6I12`; `5E16.8`) -/

/-- FCHK: the column at which the reader in the source separates label and words is the one Gaussian's layout defines,
and the published widths satisfy the side conditions of the model. -/
theorem fchk_reader_cut_matches_spec :
    fchkL.cut = 43 ∧ (Fchk.specG fchkL).reader.cut = fchkL.reader.cut ∧ Fchk.LayoutOK (Fchk.specG fchkL) ∧
    Fchk.RunTypesOK (Fchk.specG fchkL) fchkRunTypes :=
  -- the run-type condition reads only fields that `specG` leaves as they are
  ⟨rfl, rfl, by decide +kernel, C02.fchk_layout_ok.2.1⟩

/-- FCHK: a file rendered with Gaussian's widths (real scalars with 15 decimals, arrays `6I12` / `5E16.8`, any number of
elements, touching columns excluded by the format's own widths) loads as its model, for every reader that separates
label and words at the published column. -/
theorem fchk_load_spec (L : Fchk.Layout) (hS : Fchk.LayoutOK (Fchk.specG L)) (R : Fchk.RunTypes)
    (hR : Fchk.RunTypesOK (Fchk.specG L) R) (keep : Str → Bool) (m : Fchk.Obj) (h : Fchk.Dom (Fchk.specG L) m)
    (hk : ∀ f ∈ m.fields, keep f.1 = true) :
    Fchk.load (Fchk.specG L).reader R keep (Fchk.dump (Fchk.specG L) R m) = .ok (Fchk.norm (Fchk.specG L) R m) :=
  Fchk.load_dump (Fchk.specG L) hS R hR keep m h hk

/-- FCHK: triangular storage is unpacked to the right elements: element `(i, j)` of the dense matrix is entry
`max(i,j)·(max(i,j)+1)/2 + min(i,j)` of the stored triangle, for every size. -/
theorem fchk_dense_entry (α : Type) (d : α) (n : Nat) (t : List α) (i j : Nat) (hi : i < n) (hj : j < n) :
    ((Fchk.dense d n t).getD i []).getD j d = t.getD (Fchk.triIdx i j) d := by
  simp [Fchk.dense, List.getD, hi, hj]

/-! ## Cube (free format: whitespace-separated header numbers, values in row-major order x, y, z) -/

/-- Cube: a header line `n x y z` is read as these four numbers, an atom line `Z q x y z` as that atom, whatever the
widths (fields are blank-separated); the k-th value of the data block, wherever the line breaks fall, is element k of the
row-major grid. -/
theorem cube_load_spec (L : Cube.Layout) (hL : Cube.LayoutOK L) (m : Cube.Obj) (h : Cube.Dom L m) :
    Cube.load L (Cube.dump L m) = .ok (Cube.norm L m) ∧
    (∀ n v, Cube.readGrid L.hD (Cube.gridLine L n v) = .ok (n, v)) :=
  ⟨Cube.load_dump L hL m h, Cube.readGrid_gridLine L⟩

/-! ## MOL2 (Tripos free-format records) -/

/-- MOL2: an ATOM record `id name x y z type subst_id subst_name charge` is read as element (from the first two characters
of the name), coordinates, type and charge of that atom; a BOND record `id a b type` as the zero-based pair and the bond
type number — whatever the widths, for every record of the domain. -/
theorem mol2_records (T : Tables) (L : Mol2.Layout) (hL : Mol2.LayoutOK T L) (k : Nat) (a : Mol2.Atom) (ha : Mol2.AtomOK T a)
    (b : Mol2.Bond) :
    Mol2.readAtom T L (Mol2.atomLine T L k a) = .ok (Mol2.normAtom T a) ∧
    Mol2.readBond T L (Mol2.bondLine T L k b) = .ok (Mol2.normBond T L b) :=
  ⟨Mol2.readAtom_atomLine T L hL k a ha, Mol2.readBond_bondLine T L hL k b⟩

/-- MOL2: whole files in the published record order load as their model. -/
theorem mol2_load_spec (T : Tables) (L : Mol2.Layout) (hL : Mol2.LayoutOK T L) (m : Mol2.Obj) (h : Mol2.Dom T L m) :
    Mol2.load T L (Mol2.dump T L m) = .ok (Mol2.norm T L m) :=
  Mol2.load_dump T L hL m h

/-! ## FCIDUMP (chemists' notation, 8-fold symmetry) -/

/-- FCIDUMP: one line `value i j k l` (chemists' `(ij|kl)`) sets exactly the eight physicists' positions of its orbit,
`[i,k,j,l]` and its images, and touches nothing else. -/
theorem fcidump_line_fill (α : Type) (a : Helpers.Idx → α) (i j k l : Nat) (v : α) (p : Helpers.Idx) :
    Helpers.setFour a i k j l v p = if p ∈ Helpers.written i k j l then v else a p :=
  Fcidump.setFour_mem a i k j l v p

/-! ## POSCAR / CHGCAR header (VASP 5: element line, count line, direct coordinates) -/

/-- VASP header: the k-th coordinate line belongs to the k-th atom of the expanded element/count lines, and direct
coordinates `s` denote the Cartesian position `s · cell` (rows of the cell are the lattice vectors); converting that
position back gives `s` again. -/
theorem poscar_direct_coordinates (cell : Poscar.M3) (h : Poscar.det cell ≠ 0) (s : Poscar.V3) :
    Poscar.toFrac cell (Poscar.toCart cell s) = s :=
  Poscar.toFrac_toCart cell h s

/-! ## GRO (GROMACS manual: `%5d%-5s%5s%5d%8.3f%8.3f%8.3f%8.4f%8.4f%8.4f`, any precision by the decimal-point rule) -/

/-- GRO: the reader's fixed slices are the published columns (residue number 1-5, residue name 6-10, atom name 11-15,
positions from column 21). -/
theorem gro_reader_columns_match_spec : Gro.LayoutOK groL := by decide +kernel

/-- GRO: an atom record in the published columns is cut into residue number, residue name, atom name, three positions
and (when present) three velocities — fields may touch (five-digit residue numbers, `-999.999`), the field width is
recovered from the distance between the first two decimal points for every precision `d ≥ 1`. -/
theorem gro_atom_record (L : Gro.Layout) (hL : Gro.LayoutOK L) (d : Nat) (hd : 0 < d) (a : Gro.Atom) (ha : Gro.AtomOK L d a) :
    Gro.readAtom L (Gro.specAtom d a) = .ok (Gro.normAtom a, d + 5) :=
  Gro.readAtom_specAtom L hL d hd a ha

/-- GRO: a whole file in the published layout (title without time stamp, `%5d` atom count, atom records, box line of three
or nine numbers with the off-diagonal entries in the order v1(y) v1(z) v2(x) v2(z) v3(x) v3(y)) loads as the model it was
rendered from. -/
theorem gro_load_spec (L : Gro.Layout) (hL : Gro.LayoutOK L) (m : Gro.Obj) (h : Gro.Dom L m) :
    Gro.load L (Gro.specRender m) = .ok (Gro.denote m) :=
  Gro.load_spec L hL m h

/-- non-vacuity: touching fields (residue 99999, x = −999.999 directly after the atom number), a triclinic box. -/
example : Gro.Dom groL ⟨['w'], 3, [⟨99999, ['S','O','L'], ['O','W','1','2','3'], 99999, ⟨true, 999999⟩, ⟨false, 9999999⟩, ⟨true, 0⟩,
    some (⟨true, 999999⟩, ⟨false, 0⟩, ⟨false, 1⟩)⟩], (List.range 9).map fun k => ⟨false, k⟩⟩ := by decide +kernel

end Iodata.Props.C03
