/-
C11 — charge, electron count and core charges stay consistent under any assignment history.

Property theorems only (helpers: `Iodata/Lemmas/IOData.lean`).  The model
(`Iodata/Model/IOData.lean`) is tied to `iodata/iodata.py` by the correspondence stream `iod`
(same operation sequences on the real `IOData` object and on `step`, all observables compared
after every operation) and by `Iodata/Gen/IODataFields.lean` (names/orders read from the source).

All history statements quantify over ARBITRARY operation lists (`Reachable s`), proved by
induction through the invariant `Inv` (`inv_init`, `inv_step`, `inv_run`).
-/
import Iodata.Lemmas.IOData
import Iodata.Gen.IODataFields


namespace Iodata.Props.C11
open Iodata.IOD

/-- reads (the `atcorenums` and `charge` getters may write) -/
def isRead : Op → Bool
  | .getCore | .getCharge | .getNelec | .getSpinpol | .getNatom => true
  | _ => false

/-- The invariant holds after every history: once core charges are stored the hidden `_charge`
is not, and all per-atom arrays that are set have the same length. -/
theorem invariant_all_histories (ops : List Op) : Inv (run init ops) :=
  inv_run ops inv_init

/-- Whenever core charges and electron count are both known, the charge is their difference
(all three read independently from the same reachable state). -/
theorem charge_spec {s : St} (_h : Reachable s) {ac : List Rat} {ne : Rat}
    (hc : (getCore s).1 = some ac) (hn : getNelec s = some ne) :
    (getCharge s).1 = some (sum ac - ne) :=
  getCharge_val hc (getCore_nelec_some hn)

/-- The same when the electron count only becomes known through the lazy default of the core
charges (read `atcorenums`, then `nelec`, then `charge` on the same object). -/
theorem charge_spec_threaded {s : St} (_h : Reachable s) {ac : List Rat} {ne : Rat}
    (hc : (getCore s).1 = some ac) (hn : getNelec (getCore s).2.1 = some ne) :
    (getCharge s).1 = some (sum ac - ne) :=
  getCharge_val hc hn

/-- A successful assignment of the charge reads back exactly (ℚ; "to rounding" in doubles). -/
theorem set_charge_reads_back {s : St} (h : Reachable s) (c : Option Rat)
    (hok : (step s (.setCharge c)).2.1 = none) :
    (getCharge (step s (.setCharge c)).1).1 = c :=
  getCharge_setCharge (inv_reachable h) c hok

/-- … of the electron count (in any state). -/
theorem set_nelec_reads_back (s : St) (v : Option Rat) (hok : (step s (.setNelec v)).2.1 = none) :
    getNelec (step s (.setNelec v)).1 = v := by
  simp only [step, setNelec] at hok ⊢
  cases hm : s.mo with
  | some m => rw [hm] at hok; simp at hok
  | none => simp [getNelec]

/-- … of the spin polarisation. -/
theorem set_spinpol_reads_back (s : St) (v : Option Rat) (hok : (step s (.setSpinpol v)).2.1 = none) :
    getSpinpol (step s (.setSpinpol v)).1 = v := by
  simp only [step, setSpinpol] at hok ⊢
  cases hm : s.mo with
  | some m => rw [hm] at hok; simp at hok
  | none => simp [getSpinpol]

/-- Assigning charge, electron count or spin polarisation (successfully or not) never changes
what `atcorenums` reads. -/
theorem set_preserves_core (s : St) (op : Op)
    (hop : (∃ c, op = .setCharge c) ∨ (∃ v, op = .setNelec v) ∨ (∃ v, op = .setSpinpol v)) :
    (getCore (step s op).1).1 = (getCore s).1 := by
  rcases hop with ⟨c, rfl⟩ | ⟨v, rfl⟩ | ⟨v, rfl⟩
  · simp only [step]
    have hfix : (getCore (getCore s).2.1).1 = (getCore s).1 := by rw [getCore_fix]
    rcases setCharge_cases s c with ⟨he, hs⟩ | ⟨he, hv, hs⟩ | ⟨a, he, hv, hs⟩ <;> rw [hs, ← hfix]
    · rw [getCore_val, getCore_val]; rfl
    · exact getCore_val_setNelec _ _
  · exact getCore_val_setNelec s v
  · exact getCore_val_setSpinpol s v

/-- With orbitals present, electron count and spin polarisation are those of the orbitals, and
assigning either raises `TypeError` and changes nothing. -/
theorem mo_rules (s : St) (m : Mo) (hm : s.mo = some m) (v : Option Rat) :
    getNelec s = m.nelec ∧ getSpinpol s = m.spinpol ∧
    step s (.setNelec v) = (s, some .typeError, .unit) ∧
    step s (.setSpinpol v) = (s, some .typeError, .unit) := by
  simp [getNelec, getSpinpol, step, setNelec, setSpinpol, hm]

/-- All per-atom arrays agree on the number of atoms, and `natom` is that number. -/
theorem natom_agree {s : St} (h : Reachable s) (f : Fld) (n : Nat) (hl : lenOf s f = some n) :
    natom s = some n ∧ ∀ g m, lenOf s g = some m → m = n :=
  ⟨natom_eq_of_agree (inv_reachable h).2 hl, fun g m hg => (inv_reachable h).2 g f m n hg hl⟩

/-- … so the order of the `if/elif` chain in `natom` is irrelevant in reachable states. -/
theorem natom_order_irrelevant {s : St} (h : Reachable s) (order : List Fld)
    (hall : ∀ f, f ∈ order) : natomBy order s = natom s :=
  natomBy_congr (inv_reachable h).2 (fun f => ⟨fun _ => mem_natomOrder f, fun _ => hall f⟩)

/-- An assignment that would break the agreement raises `TypeError`. -/
theorem mismatch_rejected (s : St) (k : Nat) (hn : natom s = some k) (a : List Rat) (z : List Int) (f : Fld) :
    (a.length ≠ k → (step s (.setArr f (some a))).2.1 = some .typeError ∧
                    (step s (.setCore (some a))).2.1 = some .typeError) ∧
    (z.length ≠ k → (step s (.setAtnums (some z))).2.1 = some .typeError) := by
  constructor
  · intro h
    have : shapeOk s a.length = false := (shapeOk_false_iff hn _).mpr fun e => h e.symm
    simp [step, setArr, setCore, this]
  · intro h
    have : shapeOk s z.length = false := (shapeOk_false_iff hn _).mpr fun e => h e.symm
    simp [step, setAtnums, this]

/-- Reading any property is idempotent: the second read returns the same value, the same
(absent) exception and leaves the state where the first read left it. -/
theorem read_idempotent (s : St) (r : Op) (hr : isRead r = true) :
    step (step s r).1 r = ((step s r).1, (step s r).2) := by
  cases r <;> simp [isRead] at hr
  · simp only [step]; rw [getCore_fix]
  · simp only [step]; rw [getCharge_fix]
  · rfl
  · rfl
  · rfl

/-- In reachable states no getter raises. -/
theorem reads_never_raise {s : St} (h : Reachable s) (r : Op) (hr : isRead r = true) :
    (step s r).2.1 = none := by
  have ha := (inv_reachable h).2
  cases r <;> simp [isRead] at hr <;> simp only [step]
  · exact getCore_ok ha
  · rw [getCharge_snd]; exact getCore_ok ha

/-- An assignment (or construction) that raises leaves EVERY observable unchanged
(fixed by iodata commit 3383fe5; the witness `IOData(charge=1); atcoords=zeros((2,3));
atcorenums=ones(3)` is the `example` on `.setCore (some [1, 1, 1])` below). -/
theorem failed_set_is_noop {s : St} (h : Reachable s) (op : Op) (hfail : (step s op).2.1 ≠ none) :
    obs (step s op).1 = obs s := by
  have ha := (inv_reachable h).2
  rcases step_err_state op hfail with h1 | ⟨h1, hm | he⟩ <;> rw [h1]
  · -- the `nelec` refusal inside `charge = …`: with orbitals present the electron count is theirs
    apply obs_getCore ha
    unfold getNelec; rw [getCore_mo]
    cases hmo : s.mo with
    | none => exact absurd hmo hm
    | some m => rfl
  · exact absurd (getCore_ok ha) he

/-- The only exception class of the model is `TypeError`, raised exactly by the shape
validators and by the `nelec`/`spinpol` setters with orbitals present; in particular a raising
`charge` assignment is the `nelec` refusal (orbitals present and core charges known). -/
theorem failed_setCharge_iff {s : St} (h : Reachable s) (c : Option Rat) :
    (step s (.setCharge c)).2.1 ≠ none ↔ (s.mo ≠ none ∧ (getCore s).1 ≠ none) := by
  have ha := (inv_reachable h).2
  simp only [step]
  rcases setCharge_cases s c with ⟨he, _⟩ | ⟨_, hv, hs⟩ | ⟨a, _, hv, hs⟩
  · exact absurd (getCore_ok ha) he
  · rw [hs]; simp [hv]
  · rw [hs, hv]; unfold setNelec
    rw [getCore_mo]
    cases s.mo <;> simp


/-! ### the default of the core charges -/

/-
Full statement (FALSE of the code, see `core_default_violated`):
  for every history `ops` without an explicit core-charge assignment (`notExplicit`),
  `atcorenums` reads as `atnums.astype(float)` (or `None` when `atnums is None`).
The lazy default is materialised in `_atcorenums` by the first read of `atcorenums`/`charge`
(or by assigning `charge`); a later `atnums = …` leaves the stale copy behind.
-/

/-- Core charges default to the atomic numbers — proved for all histories in which `atnums`
is not re-assigned on an existing object (and no explicit core charges are given). -/
theorem core_default_partial (ops : List Op) (hops : ∀ op ∈ ops, usesDefault op = true) :
    (getCore (run init ops)).1 = (run init ops).atnums.map toFloat :=
  coreDef_read (inv_run ops inv_init).2 (run_keeps (fun _ op ho => coreDef_step op (hops op ho)) (Or.inl rfl))

/-- The full statement fails: read the default, then assign other atomic numbers.
Replayed on the real code: `d = IOData(atnums=[1,1]); d.atcorenums; d.atnums = [8,1]` gives
`d.atcorenums == [1., 1.]`. -/
theorem core_default_violated :
    ∃ ops : List Op, (∀ op ∈ ops, notExplicit op = true) ∧
      (getCore (run init ops)).1 ≠ (run init ops).atnums.map toFloat :=
  ⟨[.setAtnums (some [1, 1]), .getCore, .setAtnums (some [8, 1])], by decide +kernel, by decide +kernel⟩

/-! ### tie to the names and orders found in the source (regenerated each run) -/

/-- the `if/elif` chain of `natom` consults exactly the per-atom fields of the model
(its order is irrelevant by `natom_order_irrelevant`) -/
theorem gen_natom_chain :
    Iodata.Gen.IODataFields.natomChain.isPerm (natomOrder.map Fld.name) = true := by decide +kernel

/-- exactly these fields carry a `validate_shape("natom", …)` validator -/
theorem gen_shape_validated :
    (Iodata.Gen.IODataFields.shapeValidated.map Prod.fst).isPerm (validatorOrder.map Fld.name) = true := by
  decide +kernel

/-- `__attrs_post_init__` replays these setters in this order -/
theorem gen_post_init : Iodata.Gen.IODataFields.postInitReplay = postInitOrder := rfl

/-- `_charge`, `_nelec`, `_spinpol`, `mo` have neither validator nor converter, and exactly
`atcorenums, charge, nelec, spinpol` have property setters -/
theorem gen_plain_fields :
    Iodata.Gen.IODataFields.plainFields.isPerm plainFields = true ∧
    Iodata.Gen.IODataFields.propertySetters.isPerm (postInitOrder.map Prod.snd) = true := by decide +kernel

/-! ### non-vacuity -/

/-- reachable states with core charges, electron count and a non-zero charge exist -/
example : ∃ s, Reachable s ∧ (getCore s).1 = some [1, 1] ∧ getNelec s = some 1 ∧ (getCharge s).1 = some 1 :=
  ⟨_, ⟨[.construct { atnums := some [1, 1], charge := some 1 }], rfl⟩, by decide +kernel, by decide +kernel, by decide +kernel⟩

/-- rejected assignments exist in reachable states (wrong length; electron count with orbitals) -/
example : (step (run init [.setArr .atcoords (some [0, 0])]) (.setCore (some [1, 1, 1]))).2.1 = some .typeError := by
  decide +kernel
example : (step (run init [.setMo (some ⟨some 4, some 0⟩), .setAtnums (some [1, 1])]) (.setCharge (some 1))).2.1
    = some .typeError := by decide +kernel

/-- the witness of the defect fixed by iodata commit 3383fe5: a no-op -/
example :
    let s := run init [.construct { charge := some 1 }, .setArr .atcoords (some [0, 0])]
    obs (step s (.setCore (some [1, 1, 1]))).1 = obs s := by decide +kernel

/-- reads interfere with OTHER observables (allowed by the property, recorded here): reading the
charge materialises the default core charges and thereby makes the electron count known. -/
example :
    let s := run init [.construct { charge := some 1 }, .setAtnums (some [1, 1])]
    getNelec s = none ∧ getNelec (step s .getCharge).1 = some 1 := by decide +kernel

/-- recorded observation (outside C11's statement): `attrs.evolve(data, …)`, as
called by `prepare_*`, replays `__init__`; with a stale hidden `_nelec` and orbitals present the
replay raises `TypeError`.  Replayed on the real code: `d = IOData(nelec=5.0); d.mo = mo;
prepare_segmented(d, False, True, …)` raises `TypeError` instead of converting. -/
example :
    let s := run init [.setNelec (some 5), .setMo (some ⟨some 3, some 1⟩)]
    s.nelec = some 5 ∧ (match construct s with | .error .typeError => true | .ok _ => false) = true := by
  decide +kernel

end Iodata.Props.C11
