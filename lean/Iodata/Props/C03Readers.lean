/-
C03 for the reader-only formats — loaded values are exactly what the file says under the published layout.

Per format: the reader in the source transcribed (`Model/FmtR/*`, constants taken
from the source through `Gen/LayoutsR`), an independent renderer of the published layout (`spec…`), and
`load (specRender m) = ok m` for every model in an explicit domain.
-/
import Iodata.Lemmas.FmtR.GaussianLog
import Iodata.Lemmas.FmtR.Vasp
import Iodata.Lemmas.FmtR.Crd
import Iodata.Lemmas.FmtR.ExtXyz
import Iodata.Gen.LayoutsR
import Iodata.Gen.Layouts
import Iodata.Gen.Conventions
import Iodata.Lemmas.StrLit

namespace Iodata.Props.C03Readers
open Iodata.Chars Iodata.Decimal Iodata.Fmt Iodata.FmtR Iodata.Gen.LayoutsR

/-- `float(text)` of a printed decimal is that decimal, exactly: every mantissa, exponent and sign, Fortran
`E`/`e` exponents with or without the leading zero (`-.5E+01`), plain fixed point, any blank padding. -/
theorem float_of_printed (st : Style) (x : Num) (h : StyleOK st x) (p q : Str) (hp : AllWs p) (hq : AllWs q) :
    pyFloat (p ++ (renderNum st x ++ q)) = some x :=
  pyFloat_renderNum st x h p q hp hq

/-- Fortran `D` exponents after `.replace("D", "E")`. -/
theorem float_of_printed_D (d : Nat) (x : Num) (p q : Str) (hp : AllWs p) (hq : AllWs q) :
    pyFloat (p ++ (replaceDE (renderNum (GLog.stD d) x) ++ q)) = some x :=
  GLog.pyFloat_D d x p q hp hq

/-- T1: the statements of `load_one`, `_load_twoindex_g09`, `_load_fourindex_g09` are the ones the model
transcribes, and the extracted constants (block step 5, one label word, six skipped lines, slices 3:7 9:13 15:19
21:25 29:, index order `i0, i2, i1, i3`) are those of the published layout. -/
theorem glog_source_shape : glogSkel = GLog.expectedSkel ∧ GLog.LayoutOK glogL := by
  refine ⟨?_, by decide⟩
  simp only [glogSkel, GLog.expectedSkel, GLog.Skel.mk.injEq, List.cons.injEq, Prod.mk.injEq, eq_toList_iff,
    String.reduceOfList, and_self]

/-- Two-index matrices, **every size `n`**: `_load_twoindex_g09` on the lower triangle printed in blocks of five
columns (`D14.6`, any entries that fit their column) consumes exactly the matrix lines and leaves an array whose
element `(r, c)` is the printed entry `(max r c, min r c)` — the blocks reconstruct the lower triangle, the fill is
symmetric, and nothing outside the `n × n` square is written. -/
theorem glog_twoindex_spec (L : GLog.Layout) (hL : GLog.LayoutOK L) (S : GLog.Spec) (hP : S.perBlock = 5) (n : Nat)
    (f : Nat → Nat → Num) (hfit : ∀ r c, GLog.FitsTwo S (f r c)) (rest : List Str) :
    ∃ A, GLog.loadTwo L n (GLog.specTwo S n f ++ rest) = .ok (A, rest) ∧
      (∀ r c, r < n → c < n → getA GLog.zero A (r, c) = f (max r c) (min r c)) ∧
      (∀ kv ∈ A, kv.1.1 < n ∧ kv.1.2 < n) :=
  ⟨GLog.allAssigns S f n, GLog.loadTwo_spec L S n f rest hL.1 hL.2.1 hP hfit,
    fun r c hr hc => GLog.getA_allAssigns S f n hP r c hr hc, GLog.allAssigns_in_range S f n hP⟩

/-- Four-index integrals: every printed line ` I= J= K= L= Int=` (chemists' `(ij|kl)`) is stored at the eight
symmetry-related positions of `<ik|jl>`; an element in the orbit of a printed entry holds that entry's value, all
other elements stay zero; the line that ends the list is consumed. -/
theorem glog_fourindex_spec (L : GLog.Layout) (hL : GLog.LayoutOK L) (S : GLog.Spec) (hw : S.idxW = 3) (n : Nat)
    (pre : List Str) (term : Str) (rest : List Str) (hpre : pre.length = 6)
    (hterm : startsWith [' ','I','='] term = false) (es : List (Helpers.Idx × Num))
    (h : ∀ e ∈ es, GLog.FitsFour S e ∧ e.1.1 < n ∧ e.1.2.1 < n ∧ e.1.2.2.1 < n ∧ e.1.2.2.2 < n) :
    ∃ A, GLog.loadFour L n (GLog.specFour S pre es term ++ rest) = .ok (A, rest) ∧
      (∀ e ∈ es, ∀ p ∈ GLog.orbit e.1, (∀ e' ∈ es, p ∈ GLog.orbit e'.1 → e'.2 = e.2) → getA GLog.zero A p = e.2) ∧
      (∀ p, (∀ e ∈ es, p ∉ GLog.orbit e.1) → getA GLog.zero A p = GLog.zero) :=
  ⟨GLog.fourAssigns es, GLog.loadFour_spec L S hL hw n pre term rest hpre hterm es h,
    fun e he p hp hc => GLog.getA_fourAssigns es e he p hp hc, fun p hp => GLog.getA_fourAssigns_zero es p hp⟩

/-- Whole log files, sections in **any order**, any number of unrelated lines around and between them: every heading
is recognised, its matrix goes to the attribute the source assigns it to (`olp`, `kin_ao`, `na_ao`, `er_ao`), the matrix
reader stops exactly at the end of its matrix so that the next heading is seen, and reading ends at the termination line. -/
theorem glog_load_spec (L : GLog.Layout) (hL : GLog.LayoutOK L) (hM : GLog.MarkersOK L) (S : GLog.Spec) (hP : S.perBlock = 5)
    (hw : S.idxW = 3) (pre : List Str) (n : Nat) (secs : List GLog.Sec) (post : List Str)
    (hpre : ∀ l ∈ pre, startsWith L.nbasisPrefix l = false) (hn : (natToDec n).length ≤ 4)
    (hs : ∀ s ∈ secs, GLog.SecOK L S n s) :
    GLog.load L (GLog.specFile S pre n secs post) = .ok (secs.foldl (GLog.applySec S n) ⟨n, none, none, none, none⟩) :=
  GLog.load_spec L S hL hM hP hw pre n secs post hpre hn hs

/-- the headings in the source are the ones Gaussian prints -/
theorem glog_markers : GLog.MarkersOK glogL := by decide +kernel

/-- the orbit used by the loader is the 8-fold symmetry class of C20 (`Helpers.written`) of the physicists' index -/
example : GLog.orbit (5, 1, 4, 0) = Helpers.written 5 4 1 0 := rfl

/-- non-vacuity: the entries of the repository's fixture fit their columns; a 5 × 5 matrix is one block, a 6 × 6
matrix two -/
example : GLog.FitsTwo GLog.g09 ⟨true, 131980, -6⟩ ∧ GLog.FitsTwo GLog.g09 ⟨false, 999999, 93⟩ ∧
    (GLog.specTwo GLog.g09 5 (fun _ _ => GLog.zero)).length = 6 ∧
    (GLog.specTwo GLog.g09 6 (fun _ _ => GLog.zero)).length = 9 := by decide +kernel

/-- T1: the statements of `_load_vasp_header`, `_load_vasp_grid` and of the two `load_one` are the ones the model
transcribes (loop nest `i2, i1, i0` around `cube_data[i0, i1, i2]`, `axes=cellvecs / shape.reshape(-1, 1)`,
`/= volume(cellvecs)` for CHGCAR, `*= electronvolt` for LOCPOT), with the constants `['s']`, `['c', 'k']`, `[:3]`. -/
theorem vasp_source_shape : vaspSkel = Vasp.expectedSkel ∧ Vasp.LayoutOK vaspL := by
  refine ⟨?_, rfl, rfl, rfl⟩
  simp only [vaspSkel, Vasp.expectedSkel, Vasp.Skel.mk.injEq, List.cons.injEq, eq_toList_iff, String.reduceOfList,
    and_self]

/-- Header (shared with POSCAR): title, scaling factor, the three lattice vectors as rows, element symbols expanded
by their counts, the optional `Selective dynamics` line, the Direct/Cartesian switch and one position per atom (flags
after the third number ignored) are loaded exactly as printed. -/
theorem vasp_header_spec (L : Vasp.Layout) (T : Tables) (S : Vasp.Spec) (m : Vasp.Model) (h : Vasp.HeaderDom L T S m)
    (rest : List Str) : Vasp.loadHeader L T (Vasp.specHeader T S m ++ rest) = .ok (m.header, rest) :=
  Vasp.loadHeader_spec L T S m h rest

/-- Grid, **every shape and every line length**: a file of the published layout (values cut into lines in any way,
ragged last line included) loads as its header, its shape, and a cube whose element `(i, j, k)` is the
`(i + nx·(j + ny·k))`-th printed value — x is the fastest index; reading stops after the last grid value. -/
theorem vasp_grid_spec (L : Vasp.Layout) (T : Tables) (S : Vasp.Spec) (hd : 0 < S.valD) (m : Vasp.Model)
    (hh : Vasp.HeaderDom L T S m) (hg : Vasp.GridDom S m) :
    ∃ g, Vasp.loadGrid L T (Vasp.specRender T S m) = .ok (g, m.tail) ∧ g.hdr = m.header ∧ g.shape = m.shape ∧
      ∀ i j k, i < m.shape.1 → j < m.shape.2.1 → k < m.shape.2.2 →
        some (getA Vasp.zero g.data (i, j, k)) = m.vals[i + m.shape.1 * (j + m.shape.2.1 * k)]? :=
  ⟨_, Vasp.loadGrid_spec L T S hd m hh hg, rfl, rfl,
    fun i j k hi hj hk => Vasp.getA_grid m.shape m.vals hg.2.1 i j k hi hj hk⟩

/-- the documented factor: `cube.data[i, j, k]` is the stored value divided by the cell volume `|det(cellvecs)|`
(CHGCAR holds ρ·V) or times `electronvolt` (LOCPOT) -/
theorem vasp_data_factor (U : Vasp.Units) (g : Vasp.Grid) (p : Vasp.Idx3) :
    Vasp.dataAt U .chgcar g p = (getA Vasp.zero g.data p).val * (1 / Vasp.cellVolume U g.hdr) ∧
    Vasp.dataAt U .locpot g p = (getA Vasp.zero g.data p).val * U.electronvolt := ⟨rfl, rfl⟩

/-- `axes` rows: lattice vector `i` (in bohr, scaled) divided by the number of grid points along `i` -/
theorem vasp_axes_rows (U : Vasp.Units) (h : Vasp.Header) (s : Vasp.Idx3) (d : List (Vasp.Idx3 × Num)) (a b c : List Rat)
    (hc : Vasp.cellvecs U h = [a, b, c]) :
    Vasp.axes U ⟨h, s, d⟩ = [a.map (· / (s.1 : Rat)), b.map (· / (s.2.1 : Rat)), c.map (· / (s.2.2 : Rat))] := by
  simp [Vasp.axes, hc, Vasp.shapeList]

/-- a fixed number `k > 0` of values per line (last line ragged) is one of the admitted line divisions -/
theorem vasp_chunk_spec (k : Nat) (hk : 0 < k) (xs : List Num) :
    (Vasp.chunk k xs).flatten = xs ∧ ∀ c ∈ Vasp.chunk k xs, c ≠ [] ∧ c.length ≤ k :=
  Vasp.chunkGo_spec k hk xs.length xs (Nat.le_refl _)

/-- non-vacuity: a 2×1×3 grid on a triclinic cell, selective dynamics, values 4 per line (ragged), is in the domain -/
example : Vasp.HeaderDom vaspL Iodata.Gen.Layouts.tables Vasp.vasp5 Vasp.exampleModel ∧ Vasp.GridDom Vasp.vasp5 Vasp.exampleModel := by
  decide +kernel

/-- T1: the statements of `load_one` / `_helper_read_crd` are the ones the model transcribes (positions in double
precision, `pos *= angstrom`, `float(words[9]) * amu`), the word indices are 1…9 in the order of the card format, and
the record fields go to `atffparams` (`attypes`, `resnames`, `resnums`), `atcoords`, `atmasses`, `extra` (`segid`, `resid`). -/
theorem crd_source_shape : crdSkel = Crd.expectedSkel ∧ crdReturn = Crd.expectedReturn ∧ Crd.LayoutOK crdL := by
  refine ⟨?_, ?_, rfl⟩
  · simp only [crdSkel, Crd.expectedSkel, Crd.Skel.mk.injEq, List.cons.injEq, eq_toList_iff, String.reduceOfList,
      and_self]
  · simp only [crdReturn, Crd.expectedReturn, List.cons.injEq, eq_toList_iff, String.reduceOfList, and_self]

/-- CRD: every file of the published card layout `(I5, I5, 1X, A4, 1X, A4, 3F10.5, 1X, A4, 1X, A4, F10.5)` — any number
of title lines, fields separated by at least one blank — loads as the object it denotes: the title is the text of the
title lines, each record's residue number, residue name, atom type, x, y, z, segment id, residue id and weight stay
attached to their atom, in order. -/
theorem crd_load_spec (L : Crd.Layout) (hL : Crd.LayoutOK L) (m : Crd.Model) (h : Crd.Dom m) :
    Crd.load L (Crd.specRender m) = .ok m.obj :=
  Crd.load_spec L hL m h

/-- CRD, counter-example on the complement of `Crd.Dom` (known finding `crd:spec:touching-fields`): the card format has no
separator between its `F10.5` fields, the reader splits on blanks — a record whose y coordinate fills its ten columns
(`-100.00000`) is a valid card and is refused. -/
theorem crd_touching_fields_violated :
    Crd.specAtom 0 ⟨1, ['A','L','A'], ['C','A'], ⟨false, 1000000, -5⟩, ⟨true, 10000000, -5⟩, ⟨false, 462858, -5⟩, ['M','A','I','N'], 1, ⟨false, 1201100, -5⟩⟩
      = "    1    1 ALA  CA    10.00000-100.00000   4.62858 MAIN 1     12.01100\n".toList ∧
    failed (Crd.parseAtom crdL (Crd.specAtom 0 ⟨1, ['A','L','A'], ['C','A'], ⟨false, 1000000, -5⟩, ⟨true, 10000000, -5⟩, ⟨false, 462858, -5⟩, ['M','A','I','N'], 1, ⟨false, 1201100, -5⟩⟩)) = true := by
  rw [toList_lit (by with_reducible rfl)]
  decide +kernel

/-- CRD units: positions are the printed Å values times `angstrom`, masses the printed amu values times `amu`. -/
theorem crd_units (U : Crd.Units) (o : Crd.Obj) :
    Crd.atcoords U o = o.atoms.map (fun a => [a.x.val * U.angstrom, a.y.val * U.angstrom, a.z.val * U.angstrom]) ∧
    Crd.atmasses U o = o.atoms.map (fun a => a.mass.val * U.amu) := ⟨rfl, rfl⟩

/-- non-vacuity: the first record of the repository's fixture and a record filling its columns -/
example : Crd.Dom ⟨[" 1CCN FROM PSF OR PDB - OPTIMIZED".toList, "  DATE:     6/ 4/ 8".toList],
    [⟨1, ['T','H','R'], ['N'], ⟨true, 385076, -5⟩, ⟨true, 704232, -5⟩, ⟨false, 462858, -5⟩, ['M','A','I','N'], 1, ⟨false, 1400700, -5⟩⟩,
     ⟨9999, ['T','I','P','3'], ['O','H','2','X'], ⟨false, 99999999, -5⟩, ⟨true, 9999999, -5⟩, ⟨false, 0, -5⟩, ['W'], 9999, ⟨false, 99999999, -5⟩⟩]⟩ := by
  repeat rw [toList_lit (by with_reducible rfl)]
  decide +kernel

/-! ## extended XYZ

Full statement: every file of the ASE layout (pairs in any order, any declared columns) loads as the object it
denotes.  Proved: the title-line layer — tokenisation (`extxyz_title_tokens`), `Lattice` (`extxyz_lattice_rows`),
`Properties` column typing (`extxyz_properties_spec`).  Missing: the atom-record loop over the typed columns and
the assembly of the whole object; both are executed in the correspondence (`load-spec:extxyz`, `load-corpus`) on
generated and repository files, and checked against an independent writer in the direct search. -/

/-- T1: the statements of `_convert_title_value`, `_parse_properties`, `_parse_title` (with
`np.array(word.split(), dtype=float).reshape([3, 3]) * angstrom`, `energy`/`charge` as plain `float`) and `load_one` are
the ones the model transcribes. -/
theorem extxyz_source_shape : extxyzSkel = ExtXyz.expectedSkel := rfl

/-- Title line: `key=value` pairs separated by blanks, values bare or in double quotes (any characters but `"` and
`\` inside, blanks included), are cut into one token per pair with the quotes removed — `shlex.split` as used by
`_parse_title`. -/
theorem extxyz_title_tokens (ps : List (Str × Str × ExtXyz.Quote)) (h : ∀ p ∈ ps, ExtXyz.okPair p) :
    ExtXyz.shlexSplit (ExtXyz.renderTitle ps) = some (ps.map fun p => p.1 ++ '=' :: p.2.1) := by
  induction ps with
  | nil => simp [ExtXyz.shlexSplit, ExtXyz.renderTitle, ExtXyz.shlexGo, ExtXyz.shWs]
  | cons p ps ih =>
    have hp := h p List.mem_cons_self
    have hps : ∀ q ∈ ps, ExtXyz.okPair q := fun q hq => h q (List.mem_cons_of_mem _ hq)
    cases ps with
    | nil =>
      have e : ExtXyz.renderTitle [p] = ExtXyz.renderPair p ++ '\n' :: [] := by simp [ExtXyz.renderTitle, List.intercalate]
      unfold ExtXyz.shlexSplit
      rw [e, ExtXyz.shlex_pair p hp '\n' (by decide) []]
      simp [ExtXyz.shlexGo]
    | cons q qs =>
      have e : ExtXyz.renderTitle (p :: q :: qs) = ExtXyz.renderPair p ++ ' ' :: ExtXyz.renderTitle (q :: qs) := by
        simp [ExtXyz.renderTitle, List.intercalate]
      have := ih hps
      unfold ExtXyz.shlexSplit at this ⊢
      rw [e, ExtXyz.shlex_pair p hp ' ' (by decide) _, this]
      simp

/-- `Lattice="a0 … a8"`: the nine printed numbers are stored in file order and `reshape([3, 3])` makes the cell
vectors the rows: vector `i` is numbers `3i, 3i+1, 3i+2` (in Å as printed; the factor `angstrom` is applied by the driver). -/
theorem extxyz_lattice_rows (tb : List (Str × Bool)) (d0 : ExtXyz.TitleData) (d : Nat) (a0 a1 a2 a3 a4 a5 a6 a7 a8 : Num)
    (h : ∀ x ∈ [a0, a1, a2, a3, a4, a5, a6, a7, a8], x.exp = -(d : Int)) :
    ExtXyz.applyPair tb d0 ("Lattice=".toList ++ ExtXyz.renderLattice d [a0, a1, a2, a3, a4, a5, a6, a7, a8])
      = .ok { d0 with cell := some [a0, a1, a2, a3, a4, a5, a6, a7, a8] } ∧
    ExtXyz.cellRows [a0, a1, a2, a3, a4, a5, a6, a7, a8] = [(a0, a1, a2), (a3, a4, a5), (a6, a7, a8)] :=
  ⟨ExtXyz.applyPair_lattice tb d0 d _ h rfl, rfl⟩

/-- `Properties=…`, **every list of declarations**: the value `name:type:ncols:…` is typed as the published description
says — `Z` gives `atnums` when present (then `species` is an ordinary string column of `extra`), otherwise `species` does;
`pos` → `atcoords` (3 reals), `masses` → `atmasses`, `force` → `atgradient` (3 reals, negated on loading); every other name
goes to `extra[name]` with the declared type (`S`/`R`/`I`/`L`) and width (`1` = one scalar per atom). -/
theorem extxyz_properties_spec (ps : List ExtXyz.Prop') (hne : ps ≠ []) (hok : ∀ p ∈ ps, ExtXyz.okProp p)
    (cols : List ExtXyz.Column) (hc : ExtXyz.mapOpt (ExtXyz.colOf (decide (ExtXyz.Prop'.z ∈ ps))) ps = some cols) :
    ExtXyz.parseProperties (ExtXyz.renderProps ps) = .ok cols := by
  have hparts : ps.flatMap ExtXyz.Prop'.triple ≠ [] := by
    cases ps with
    | nil => exact absurd rfl hne
    | cons p ps => simp [ExtXyz.triple_eq]
  unfold ExtXyz.parseProperties ExtXyz.renderProps
  rw [ExtXyz.splitOn_intercalate _ hparts (ExtXyz.triples_no_colon ps hok)]
  have hl : (ps.flatMap ExtXyz.Prop'.triple).length % 3 = 0 := by rw [ExtXyz.length_triples]; omega
  simp only [hl, ne_eq, not_true_eq_false, if_false, ExtXyz.group3_triples, ExtXyz.names_contains_Z ps hok,
    ExtXyz.names_contains_species ps hok]
  exact ExtXyz.mapR_cols ps ps (fun p hp => hp) hok cols hc

/-- column typing on the declarations of the repository's fixtures: `species:S:1:pos:R:3:Z:I:1:force:R:3` gives
`species` → `extra` (string), `pos` → `atcoords`, `Z` → `atnums`, `force` → `atgradient`; without `Z`, `species` gives
the atomic numbers and `some_label:L:2` a two-column logical `extra` entry. -/
example :
    ExtXyz.parseProperties "species:S:1:pos:R:3:Z:I:1:force:R:3".toList
      = .ok [⟨"extra".toList, "species".toList, 1, false, .str⟩, ⟨"atcoords".toList, [], 3, true, .pos⟩, ExtXyz.atnumsCol,
             ⟨"atgradient".toList, [], 3, true, .force⟩] ∧
    ExtXyz.parseProperties "species:S:1:pos:R:3:some_label:L:2".toList
      = .ok [ExtXyz.atnumsCol, ⟨"atcoords".toList, [], 3, true, .pos⟩, ⟨"extra".toList, "some_label".toList, 2, true, .logical⟩] := by
  repeat rw [toList_lit (by with_reducible rfl)]
  decide +kernel

/-- non-vacuity: a title with a quoted lattice and a quoted `pbc` is in the domain of `extxyz_title_tokens` -/
example : ∀ p ∈ [("Lattice".toList, "7.6 0.0 0.0 0.0 7.6 0.0 0.0 0.0 7.6".toList, ExtXyz.Quote.dq),
    ("Properties".toList, "species:S:1:pos:R:3".toList, .bare), ("pbc".toList, "T F T".toList, .dq)], ExtXyz.okPair p := by
  repeat rw [toList_lit (by with_reducible rfl)]
  decide +kernel

/-- The published numbering of Cartesian primitive types in AIMPAC WFN / AIMAll WFX files (AIMAll's format
description, repeated in the Multiwfn manual): code 1 = S, 2-4 = P, 5-10 = D, 11-20 = F, 21-35 = G, 36-56 = H,
each written as the monomial it multiplies. -/
def wfnTypeCodes : List String :=
  ["1", "x", "y", "z", "xx", "yy", "zz", "xy", "xz", "yz",
   "xxx", "yyy", "zzz", "xxy", "xxz", "yyz", "xyy", "xzz", "yzz", "xyz",
   "xxxx", "yyyy", "zzzz", "xxxy", "xxxz", "xyyy", "yyyz", "xzzz", "yzzz", "xxyy", "xxzz", "yyzz", "xxyz", "xyyz", "xyzz",
   "zzzzz", "yzzzz", "yyzzz", "yyyzz", "yyyyz", "yyyyy", "xzzzz", "xyzzz", "xyyzz", "xyyyz", "xyyyy", "xxzzz", "xxyzz",
   "xxyyz", "xxyyy", "xxxzz", "xxxyz", "xxxyy", "xxxxz", "xxxxy", "xxxxx"]

/-- the table a module's reader and writer index with the type code minus one (`PRIMITIVE_NAMES`): the Cartesian
conventions of l = 0..5 concatenated in order of l -/
def primitiveNames (t : Iodata.Conv.Table) : List String :=
  (t.filter (fun e => e.1.2 == 'c')).flatMap (fun e => e.2.map String.ofList)

/-- **wfn_type_codes_published.**  The convention tables of `wfn.py` and `wfx.py` (regenerated from the source) list the
56 primitive types in the published order, so code `k` of a file written by another program is read as the `k`-th
published monomial (and written back under the same code).  It stands with the reader-only formats because it is C03 for a
published table, the type codes, and not for a layout. -/
theorem wfn_type_codes_published :
    primitiveNames Iodata.Gen.Conventions.wfn = wfnTypeCodes ∧
    primitiveNames Iodata.Gen.Conventions.wfx = wfnTypeCodes := by decide +kernel

end Iodata.Props.C03Readers
