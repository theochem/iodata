/-
C15 — after one save/reload cycle, further cycles change nothing.

Property theorems only.  For each byte-level format: the reloaded object `norm o` is a fixed point of
`norm` and lies in the domain again, hence (with the C02 theorem of the same model) the second and
third generation objects and files coincide.  The objects are quantised (DESIGN §4.1): that the
floating-point unit conversion does not move a printed digit is the magnitude bound the harness keeps
(`mag ≤ 10^15 < 2^52/3`) and checks on the real code (bit-identical generations in the search).
-/
import Iodata.Lemmas.Fmt.Xyz
import Iodata.Lemmas.Fmt.Sdf
import Iodata.Lemmas.Fmt.Pdb
import Iodata.Lemmas.Fmt.PdbConect
import Iodata.Lemmas.Fmt.Fchk
import Iodata.Lemmas.Fmt.Cube
import Iodata.Lemmas.Fmt.Mol2
import Iodata.Lemmas.Fmt.Fcidump
import Iodata.Lemmas.Fmt.Poscar
import Iodata.Lemmas.Fmt.Fields
import Iodata.Gen.Layouts

namespace Iodata.Props.C15
open Iodata.Chars Iodata.Decimal Iodata.Fmt Iodata.Gen.Layouts

/-- XYZ: what a reload returns is a fixed point of the normaliser and is again in the domain. -/
theorem xyz_norm_stable (T : Tables) (L : Xyz.Layout) (hL : Xyz.LayoutOK L) (o : Xyz.Obj) (h : Xyz.Dom T L o) :
    Xyz.norm L (Xyz.norm L o) = Xyz.norm L o ∧ Xyz.Dom T L (Xyz.norm L o) :=
  ⟨Xyz.norm_idem L hL o, Xyz.dom_norm T L hL o h⟩

/-- XYZ: generations.  With `o₁` the object reloaded after the first save: saving and reloading `o₁`
returns `o₁` itself, and the file written from that (third generation) equals the second one. -/
theorem xyz_generations (T : Tables) (L : Xyz.Layout) (hL : Xyz.LayoutOK L) (o o₁ : Xyz.Obj) (h : Xyz.Dom T L o)
    (h₁ : Xyz.load T L (Xyz.dump T L o) = .ok o₁) :
    Xyz.load T L (Xyz.dump T L o₁) = .ok o₁ ∧
    ∀ o₂, Xyz.load T L (Xyz.dump T L o₁) = .ok o₂ → Xyz.dump T L o₂ = Xyz.dump T L o₁ :=
  generations (Xyz.load T L) (Xyz.dump T L) id (Xyz.norm L) (Xyz.Dom T L) (Xyz.load_dump T L hL)
    (fun o _ => Xyz.norm_idem L hL o) (Xyz.dom_norm T L hL) o o₁ h h₁

/-- SDF: the reloaded object is a fixed point of the normaliser and stays in the domain. -/
theorem sdf_norm_stable (T : Tables) (L : Sdf.Layout) (hL : Sdf.LayoutOK L) (o : Sdf.Obj) (h : Sdf.Dom T L o) :
    Sdf.norm L (Sdf.norm L o) = Sdf.norm L o ∧ Sdf.Dom T L (Sdf.norm L o) :=
  ⟨Sdf.norm_idem L hL o, Sdf.dom_norm T L hL o h⟩

/-- SDF: generations 2 and 3 coincide, for every object the columns can hold. -/
theorem sdf_generations (T : Tables) (L : Sdf.Layout) (hL : Sdf.LayoutOK L) (o o₁ : Sdf.Obj) (h : Sdf.Dom T L o)
    (h₁ : Sdf.load T L (Sdf.dump T L o) = .ok o₁) :
    Sdf.load T L (Sdf.dump T L o₁) = .ok o₁ ∧
    ∀ o₂, Sdf.load T L (Sdf.dump T L o₁) = .ok o₂ → Sdf.dump T L o₂ = Sdf.dump T L o₁ :=
  generations (Sdf.load T L) (Sdf.dump T L) id (Sdf.norm L) (Sdf.Dom T L) (Sdf.load_dump T L hL)
    (fun o _ => Sdf.norm_idem L hL o) (Sdf.dom_norm T L hL) o o₁ h h₁

/-- PDB: the reloaded object (bonds de-duplicated and ordered by `normBonds`), saved again, reloads as itself:
`norm` is idempotent through `Loaded.obj` — in particular `normBonds` is a fixed point of bonds → CONECT records
→ bonds — and stays in the domain. -/
theorem pdb_norm_stable (T : Tables) (L : Pdb.Layout) (hL : Pdb.LayoutOK L) (o : Pdb.Obj) (h : Pdb.DomB T L o) :
    Pdb.norm L (Pdb.norm L o).obj = Pdb.norm L o ∧ Pdb.DomB T L (Pdb.norm L o).obj :=
  ⟨Pdb.norm_idem_bonds L hL o, Pdb.domB_norm T L hL o h⟩

/-- PDB: the de-duplicated bond list is unchanged by a further save/reload, for every bond list. -/
theorem pdb_bonds_stable (n : Nat) (bonds : List (Nat × Nat)) :
    Pdb.normBonds n (Pdb.normBonds n bonds) = Pdb.normBonds n bonds :=
  Pdb.normBonds_idem n bonds

/-- PDB: generations 2 and 3 coincide, objects with bonds included. -/
theorem pdb_generations (T : Tables) (L : Pdb.Layout) (hL : Pdb.LayoutOK L) (hC : Pdb.ConectOK L) (o : Pdb.Obj)
    (x₁ : Pdb.Loaded) (h : Pdb.DomB T L o) (h₁ : Pdb.load T L (Pdb.dump T L o) = .ok x₁) :
    Pdb.load T L (Pdb.dump T L x₁.obj) = .ok x₁ ∧
    ∀ x₂, Pdb.load T L (Pdb.dump T L x₁.obj) = .ok x₂ → Pdb.dump T L x₂.obj = Pdb.dump T L x₁.obj :=
  generations (Pdb.load T L) (Pdb.dump T L) Pdb.Loaded.obj (Pdb.norm L) (Pdb.DomB T L) (Pdb.load_dump_bonds T L hL hC)
    (fun o _ => Pdb.norm_idem_bonds L hL o) (Pdb.domB_norm T L hL) o x₁ h h₁

/-! ## FCHK, field layer -/

/-- FCHK: what a reload returns (empty arrays dropped, title defaulted, names lower-cased, run type mapped through both
tables) is a fixed point and stays in the domain. -/
theorem fchk_norm_stable (L : Fchk.Layout) (hL : Fchk.LayoutOK L) (R : Fchk.RunTypes) (hR : Fchk.RunTypesOK L R)
    (o : Fchk.Obj) (h : Fchk.Dom L o) :
    Fchk.norm L R (Fchk.norm L R o).obj = Fchk.norm L R o ∧ Fchk.Dom L (Fchk.norm L R o).obj :=
  ⟨Fchk.norm_idem L hL R hR o h, Fchk.dom_norm L hL R hR o h⟩

/-- FCHK: generations 2 and 3 coincide at the field layer. -/
theorem fchk_generations (L : Fchk.Layout) (hL : Fchk.LayoutOK L) (R : Fchk.RunTypes) (hR : Fchk.RunTypesOK L R)
    (o : Fchk.Obj) (x₁ : Fchk.Loaded) (h : Fchk.Dom L o)
    (h₁ : Fchk.load L.reader R (fun _ => true) (Fchk.dump L R o) = .ok x₁) :
    Fchk.load L.reader R (fun _ => true) (Fchk.dump L R x₁.obj) = .ok x₁ ∧
    ∀ x₂, Fchk.load L.reader R (fun _ => true) (Fchk.dump L R x₁.obj) = .ok x₂ → Fchk.dump L R x₂.obj = Fchk.dump L R x₁.obj :=
  generations (Fchk.load L.reader R fun _ => true) (Fchk.dump L R) Fchk.Loaded.obj (Fchk.norm L R) (Fchk.Dom L)
    (fun o h => Fchk.load_dump L hL R hR _ o h fun _ _ => rfl) (Fchk.norm_idem L hL R hR) (Fchk.dom_norm L hL R hR) o x₁ h h₁

/-- Cube: the reloaded object is a fixed point (the zero-core-charge replacement happens once) and stays in the domain. -/
theorem cube_norm_stable (L : Cube.Layout) (hL : Cube.LayoutOK L) (o : Cube.Obj) (h : Cube.Dom L o) :
    Cube.norm L (Cube.norm L o) = Cube.norm L o ∧ Cube.Dom L (Cube.norm L o) :=
  ⟨Cube.norm_idem L hL o, Cube.dom_norm L hL o h⟩

/-- Cube: generations 2 and 3 coincide. -/
theorem cube_generations (L : Cube.Layout) (hL : Cube.LayoutOK L) (o o₁ : Cube.Obj) (h : Cube.Dom L o)
    (h₁ : Cube.load L (Cube.dump L o) = .ok o₁) :
    Cube.load L (Cube.dump L o₁) = .ok o₁ ∧
    ∀ o₂, Cube.load L (Cube.dump L o₁) = .ok o₂ → Cube.dump L o₂ = Cube.dump L o₁ :=
  generations (Cube.load L) (Cube.dump L) id (Cube.norm L) (Cube.Dom L) (Cube.load_dump L hL)
    (fun o _ => Cube.norm_idem L hL o) (Cube.dom_norm L hL) o o₁ h h₁

/-- MOL2: the reloaded object (types and charges filled in, unknown bond types mapped to `un`) is a fixed point and stays
in the domain. -/
theorem mol2_norm_stable (T : Tables) (L : Mol2.Layout) (hL : Mol2.LayoutOK T L) (o : Mol2.Obj) (h : Mol2.Dom T L o) :
    Mol2.norm T L (Mol2.norm T L o).obj = Mol2.norm T L o ∧ Mol2.Dom T L (Mol2.norm T L o).obj :=
  ⟨Mol2.norm_idem T L hL o, Mol2.dom_norm T L hL o h⟩

/-- MOL2: generations 2 and 3 coincide. -/
theorem mol2_generations (T : Tables) (L : Mol2.Layout) (hL : Mol2.LayoutOK T L) (o : Mol2.Obj) (x₁ : Mol2.Loaded)
    (h : Mol2.Dom T L o) (h₁ : Mol2.load T L (Mol2.dump T L o) = .ok x₁) :
    Mol2.load T L (Mol2.dump T L x₁.obj) = .ok x₁ ∧
    ∀ x₂, Mol2.load T L (Mol2.dump T L x₁.obj) = .ok x₂ → Mol2.dump T L x₂.obj = Mol2.dump T L x₁.obj :=
  generations (Mol2.load T L) (Mol2.dump T L) Mol2.Loaded.obj (Mol2.norm T L) (Mol2.Dom T L) (Mol2.load_dump T L hL)
    (fun o _ => Mol2.norm_idem T L hL o) (Mol2.dom_norm T L hL) o x₁ h h₁

/-! ## FCIDUMP, index layer -/

/-- FCIDUMP: the array reloaded from the file writes the same index lines again (second generation = first). -/
theorem fcidump_entries_stable (α : Type) [DecidableEq α] (zero : α) (n : Nat) (T : Helpers.Idx → α) (h : Fcidump.Sym T) :
    Fcidump.entries zero n (Fcidump.fill zero (Fcidump.entries zero n T)) = Fcidump.entries zero n T :=
  Fcidump.entries_fill zero n T h

/-! ## POSCAR, structure layer -/

/-- POSCAR: a grouped atom list is written in the same order again: the re-ordering happens once (the remaining drift of
the real code is floating-point round-off of the direct coordinates: known finding `poscar:*drift*`). -/
theorem poscar_group_stable (α : Type) (key : α → Nat) (atoms : List α) :
    Poscar.group key (Poscar.group key atoms) = Poscar.group key atoms :=
  Poscar.group_idem key atoms

end Iodata.Props.C15
