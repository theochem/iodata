/-
C08 — dump failures follow the error contract; pre-flight errors spare existing files.

Property theorems and the reference data of the table checks (`pinnedRequired`, `declared`).  All theorems are about the reference terms `Ref.*` (`open Iodata.Flow.Ref`); `flow_matches_*`
tie the terms generated from the source to them.  The model is `Iodata/Model/Flow.lean` (IR + trace semantics `exec`, the same
definitions the driver runs for the `flow` correspondence stream); helper lemmas and the hand-written
reference terms `Ref.*` live in `Iodata/Lemmas/Flow.lean`, `Flow2.lean`.  `Gen/ApiFlow.lean` is regenerated
from `iodata/api.py` on every run.

All theorems quantify over ALL behaviours of the callees (`Beh`, `Frame`): what `getattr` does for every
required name (value / `None` / raises), whether `prepare_dump` exists, returns or raises which class, whether
`open` fails, how many `write` calls succeed before which exception, how many frames the user's iterator
yields and how it ends, and over every file system `fs` and target `path`.
-/
import Iodata.Lemmas.Flow2
import Iodata.Gen.ApiFlow
import Iodata.Gen.ApiRegistry

namespace Iodata.Props.C08
open Iodata.Flow Iodata.Flow.Ref

/-- api.py `_check_required` has the transcribed shape. -/
theorem flow_matches_check_required : Gen.ApiFlow.checkRequired = Ref.checkRequired := rfl
/-- api.py `dump_one` has the transcribed shape (pre-flight block before `open`, the two funnels). -/
theorem flow_matches_dump_one : Gen.ApiFlow.dumpOne = Ref.dumpOne := rfl
/-- api.py `dump_many` has the transcribed shape. -/
theorem flow_matches_dump_many : Gen.ApiFlow.dumpMany = Ref.dumpMany := rfl
/-- api.py `write_input` has the transcribed shape. -/
theorem flow_matches_write_input : Gen.ApiFlow.writeInput = Ref.writeInput := rfl

/-- The decorator around every API function, statement by statement: `func` runs inside
`warnings.catch_warnings(record=True)` with the caller's filters left in force (no `simplefilter` inside, so a
caller's warnings-as-errors setting makes the warning raise *inside* `func`, where the funnels turn it into
`PrepareDumpError` before the file is opened, or `DumpError`); what was recorded is re-issued afterwards; the
`try/finally` has no `except`, so exceptions of `func` pass through unchanged and its result is returned. -/
theorem reissue_wrapper_shape :
    Gen.ApiFlow.reissueBody =
      ["def _reissue_warnings(func):", "", "    def inner(*args, **kwargs):", "        warning_list = []",
       "        try:", "            with warnings.catch_warnings(record=True) as warning_list:",
       "                result = func(*args, **kwargs)", "        finally:",
       "            for warning in warning_list:",
       "                warnings.warn(warning.message, warning.category, stacklevel=2)",
       "        return result", "    return inner"] := rfl

/-- every API entry point carries exactly that decorator and no other. -/
theorem api_decorators_pinned :
    Gen.ApiFlow.decorators =
      [("_check_required", []), ("dump_one", ["_reissue_warnings"]), ("dump_many", ["_reissue_warnings"]),
       ("write_input", ["_reissue_warnings"]), ("load_one", ["_reissue_warnings"]),
       ("load_many", ["_reissue_warnings"]), ("convert", []), ("main", [])] := rfl

/-- **dump_one_preflight.**  If `_check_required` or `prepare_dump` fails with any `Exception` (a required
attribute is `None`, a getter raises, `prepare_dump` raises `PrepareDumpError` or anything else), `dump_one`
raises `PrepareDumpError`, the file system is unchanged (a pre-existing target keeps its bytes, an absent
one stays absent) and the trace contains neither an `open` nor a `write`. -/
theorem dump_one_preflight (b : Beh) (f : Frame) (path : Nat) (fs : FS) (e : Exc)
    (hsel : b.select = none) (hbad : preFault b f = some e) (he : e.isException = true) :
    (runOne dumpOne b f path fs).1 = .raised .prepareDump none ∧
    (runOne dumpOne b f path fs).2.fs = fs ∧
    Ev.openW ∉ (runOne dumpOne b f path fs).2.trace ∧
    ∀ t, Ev.write t ∉ (runOne dumpOne b f path fs).2.trace := by
  obtain ⟨st', h, evs, hev, hif⟩ := dump_one_master b f path fs
  obtain ⟨hout, hop⟩ := dumpOneOut_rejected hsel (preExc_of_fault hbad he)
  rw [h]; simp only [hop] at hif
  refine ⟨hout, hif.1, ?_, ?_⟩
  · rw [hif.2]; exact hev.not_open
  · intro t; rw [hif.2]; exact hev.not_write t

/-- corollary: a missing required attribute (any non-empty subset set to `None`). -/
theorem dump_one_missing_attr (b : Beh) (f : Frame) (path : Nat) (fs : FS)
    (hsel : b.select = none) (h : ∀ a ∈ f.attrs, a = .val ∨ a = .none) (hn : AttrB.none ∈ f.attrs) :
    (runOne dumpOne b f path fs).1 = .raised .prepareDump none ∧
    (runOne dumpOne b f path fs).2.fs = fs ∧ Ev.openW ∉ (runOne dumpOne b f path fs).2.trace := by
  have hb : preFault b f = some .prepareDump := by simp [preFault, check_missing_attr f.attrs h hn]
  obtain ⟨h1, h2, h3, -⟩ := dump_one_preflight b f path fs .prepareDump hsel hb rfl
  exact ⟨h1, h2, h3⟩

/-- **dump_one_write.**  After a successful pre-flight and `open`, any `Exception` of the writer (at any
`write` call, after any number of completed ones) surfaces as `DumpError`; the file was opened, holds
exactly the completed writes, other paths are untouched, and the last event is `close`. -/
theorem dump_one_write (b : Beh) (f : Frame) (path : Nat) (fs : FS) (e : Exc)
    (hsel : b.select = none) (hpre : preFault b f = none) (hopen : b.openFail = none)
    (hw : f.w.fail = some e) (he : e.isException = true) :
    (runOne dumpOne b f path fs).1 = .raised .dump none ∧
    (runOne dumpOne b f path fs).2.trace.head? = some .close ∧
    (runOne dumpOne b f path fs).2.fs path = some (List.range' 0 f.w.n) ∧
    ∀ q, q ≠ path → (runOne dumpOne b f path fs).2.fs q = fs q := by
  obtain ⟨st', h, evs, hev, hif⟩ := dump_one_master b f path fs
  obtain ⟨hout, hop⟩ := dumpOneOut_opened hsel (preExc_of_ok hpre) hopen
  rw [h]; simp only [hop, if_true] at hif
  refine ⟨by simp [hout, hw, funnelDump, he], by simp [hif.2], ?_, ?_⟩
  · rw [hif.1, appendToks_at]; simp [fsSet]
  · intro q hq; rw [hif.1, appendToks_other _ _ _ _ _ hq]; simp [fsSet, hq]

/-- the success case: everything fine ⇒ returns, the target holds all
writes, the file is closed. -/
theorem dump_one_success (b : Beh) (f : Frame) (path : Nat) (fs : FS)
    (hsel : b.select = none) (hpre : preFault b f = none) (hopen : b.openFail = none) (hw : f.w.fail = none) :
    (runOne dumpOne b f path fs).1 = .ret ∧
    (runOne dumpOne b f path fs).2.trace.head? = some .close ∧
    (runOne dumpOne b f path fs).2.fs path = some (List.range' 0 f.w.n) := by
  obtain ⟨st', h, evs, hev, hif⟩ := dump_one_master b f path fs
  obtain ⟨hout, hop⟩ := dumpOneOut_opened hsel (preExc_of_ok hpre) hopen
  rw [h]; simp only [hop, if_true] at hif
  refine ⟨by simp [hout, hw], by simp [hif.2], ?_⟩
  rw [hif.1, appendToks_at]; simp [fsSet]

/-- When format selection fails (C17: always with `FileFormatError`) that exception is the
outcome, nothing was touched and nothing else ran. -/
theorem dump_one_select (b : Beh) (f : Frame) (path : Nat) (fs : FS) (e : Exc) (hsel : b.select = some e) :
    (runOne dumpOne b f path fs).1 = .raised e none ∧
    (runOne dumpOne b f path fs).2.fs = fs ∧ (runOne dumpOne b f path fs).2.trace = [] := by
  rw [runOne, dumpOne, exec_select_fail { b := b, path := path } _ _ _ _ _ e hsel]; exact ⟨rfl, rfl, rfl⟩

/-- Whatever the callees do, an exception leaving `dump_one` is
`PrepareDumpError`, `DumpError`, the exception of format selection, the error `open` itself raised, or a
non-`Exception` (KeyboardInterrupt-like) raised by a callee. -/
theorem dump_one_only_these_escape (b : Beh) (f : Frame) (path : Nat) (fs : FS) (e : Exc) (ln : Option Int)
    (h : (runOne dumpOne b f path fs).1 = .raised e ln) :
    e = .prepareDump ∨ e = .dump ∨ b.select = some e ∨ b.openFail = some e ∨ e.isException = false := by
  obtain ⟨st', hm, -⟩ := dump_one_master b f path fs
  exact dumpOneOut_escape (hm ▸ h)

/-- **dump_many_empty.**  An empty frame sequence ⇒ `DumpError`; nothing is created or touched. -/
theorem dump_many_empty (b : Beh) (path : Nat) (fs : FS) (hsel : b.select = none) (hend : b.iterEnd = none) :
    (runMany dumpMany b [] path fs).1 = .raised .dump none ∧
    (runMany dumpMany b [] path fs).2.fs = fs ∧ (runMany dumpMany b [] path fs).2.trace = [] := by
  obtain ⟨st', h, hfs, htr⟩ := dump_many_master b [] path fs
  rw [h]; exact ⟨by simp [manyOut, hsel, firstNextExc, hend], hfs, htr⟩

/-- **dump_many_first.**  A fault of the first frame (as in `dump_one_preflight`) ⇒ `PrepareDumpError`, file
system unchanged, no `open`, whatever the later frames are. -/
theorem dump_many_first (b : Beh) (f0 : Frame) (rest : List Frame) (path : Nat) (fs : FS) (e : Exc)
    (hsel : b.select = none) (hbad : preFault b f0 = some e) (he : e.isException = true) :
    (runMany dumpMany b (f0 :: rest) path fs).1 = .raised .prepareDump none ∧
    (runMany dumpMany b (f0 :: rest) path fs).2.fs = fs ∧
    Ev.openW ∉ (runMany dumpMany b (f0 :: rest) path fs).2.trace := by
  obtain ⟨st', h, evs, hev, hif⟩ := dump_many_master b (f0 :: rest) path fs
  have hpe := preExc_of_fault hbad he
  rw [h]; simp only [hpe, Option.isNone_some, Bool.and_false, Bool.false_and, Bool.false_eq_true, if_false] at hif
  refine ⟨manyOut_rejected hsel hpe, hif.1, ?_⟩
  rw [hif.2]; exact hev.not_open

/-- a frame that passes the checks and is written completely -/
def GoodFrame (b : Beh) (f : Frame) : Prop := preFault b f = none ∧ f.w.fail = none

/-- **dump_many_later.**  If the first frame and the frames before index `i` are fine and frame `i > 0` has a
pre-flight fault (missing required attribute, `prepare_dump` rejection, …) then the error is not swallowed:
`PrepareDumpError` stays `PrepareDumpError`, any other `Exception` surfaces as `DumpError`; the target holds
exactly the header and the frames `< i` (the file was overwritten, as documented), and it is closed.
By induction over the frame list. -/
theorem dump_many_later (b : Beh) (f0 : Frame) (good : List Frame) (bad : Frame) (rest : List Frame)
    (path : Nat) (fs : FS) (e : Exc)
    (hsel : b.select = none) (hopen : b.openFail = none) (hpre : b.pre.fail = none)
    (h0 : GoodFrame b f0) (hg : ∀ f ∈ good, GoodFrame b f)
    (hb : preFault b bad = some e) (he : e.isException = true) :
    (runMany dumpMany b (f0 :: (good ++ bad :: rest)) path fs).1
      = .raised (if e = .prepareDump then .prepareDump else .dump) none ∧
    (runMany dumpMany b (f0 :: (good ++ bad :: rest)) path fs).2.trace.head? = some .close ∧
    (runMany dumpMany b (f0 :: (good ++ bad :: rest)) path fs).2.fs path
      = some (List.range' 0 (b.pre.n + f0.w.n + (good.map (fun f => f.w.n)).sum)) := by
  obtain ⟨st', h, evs, hev, hif⟩ := dump_many_master b (f0 :: (good ++ bad :: rest)) path fs
  have hpe := preExc_of_ok h0.1
  obtain ⟨hl1, hl2⟩ := loop_good_then_bad b good bad rest e hg hb
  have hc := consumeRes_loop_fault hpre h0.2 hl1
  rw [hl2] at hc
  rw [h]
  simp only [hsel, hpe, hopen, Option.isNone_none, Bool.and_self, if_true] at hif
  obtain ⟨hfs, mid, hmid, htr⟩ := hif
  refine ⟨?_, by simp [htr], ?_⟩
  · simp [manyOut_opened hsel hpe hopen, hc, funnelMany, he]
  · rw [hfs, hc, appendToks_at]; simp [fsSet, Nat.add_assoc]

/-- As for `dump_one_only_these_escape`; in addition a user iterator whose *first*
`next()` raises something else than `StopIteration` lets that exception through (outside the contract,
listed as such in DESIGN.md). -/
theorem dump_many_only_these_escape (b : Beh) (frames : List Frame) (path : Nat) (fs : FS) (e : Exc)
    (ln : Option Int) (h : (runMany dumpMany b frames path fs).1 = .raised e ln) :
    e = .prepareDump ∨ e = .dump ∨ b.select = some e ∨ b.openFail = some e ∨ e.isException = false
      ∨ (frames = [] ∧ b.iterEnd = some e) := by
  obtain ⟨st', hm, -⟩ := dump_many_master b frames path fs
  exact manyOut_escape (hm ▸ h)

/-- **write_input_funnel.**  Unknown program ⇒ the selection error before anything is touched; any
`Exception` while writing ⇒ `WriteInputError` with the file closed. -/
theorem write_input_funnel (b : Beh) (f : Frame) (path : Nat) (fs : FS) :
    (∀ e, b.select = some e →
        (runOne writeInput b f path fs).1 = .raised e none ∧ (runOne writeInput b f path fs).2.fs = fs ∧
        (runOne writeInput b f path fs).2.trace = []) ∧
    (∀ e, b.select = none → b.openFail = none → f.w.fail = some e → e.isException = true →
        (runOne writeInput b f path fs).1 = .raised .writeInput none ∧
        (runOne writeInput b f path fs).2.trace.head? = some .close) := by
  obtain ⟨st', h, hif⟩ := write_input_master b f path fs
  rw [h]
  constructor
  · intro e hs; simp [hs] at hif; exact ⟨by simp [inputOut, hs], hif.1, hif.2⟩
  · intro e hs ho hw he
    simp [hs, ho] at hif
    exact ⟨by simp [inputOut, hs, ho, hw, funnelInput, he], by simp [hif.2]⟩

/-- As for `dump_one_only_these_escape`, with `WriteInputError` as the only class of the funnel. -/
theorem write_input_only_these_escape (b : Beh) (f : Frame) (path : Nat) (fs : FS) (e : Exc) (ln : Option Int)
    (h : (runOne writeInput b f path fs).1 = .raised e ln) :
    e = .writeInput ∨ b.select = some e ∨ b.openFail = some e ∨ e.isException = false := by
  obtain ⟨st', hm, -⟩ := write_input_master b f path fs
  exact inputOut_escape (hm ▸ h)

/-- the `required` lists as declared at the pinned revision (reference for "declares as required") -/
def pinnedRequired : List (String × String × List String) :=
  [("cube", "dump_one", ["atcoords", "atnums", "cube"]), ("fchk", "dump_one", ["atnums", "atcorenums"]),
   ("fcidump", "dump_one", ["one_ints", "two_ints"]),
   ("json_qcschema", "dump_one", ["atnums", "atcoords", "charge", "spinpol"]),
   ("mol2", "dump_one", ["atcoords", "atnums"]), ("mol2", "dump_many", ["atcoords", "atnums", "atcharges"]),
   ("molden", "dump_one", ["atcoords", "atnums", "mo", "obasis"]),
   ("molekel", "dump_one", ["atcoords", "atnums", "mo", "obasis"]),
   ("pdb", "dump_one", ["atcoords", "atnums", "extra"]), ("pdb", "dump_many", ["atcoords", "atnums", "extra"]),
   ("poscar", "dump_one", ["atcoords", "atnums", "cellvecs"]),
   ("sdf", "dump_one", ["atcoords", "atnums"]), ("sdf", "dump_many", ["atcoords", "atnums"]),
   ("wfn", "dump_one", ["atcoords", "atnums", "mo", "obasis"]),
   ("wfx", "dump_one", ["atcoords", "atnums", "atcorenums", "mo", "obasis", "charge"]),
   ("xyz", "dump_one", ["atcoords", "atnums"]), ("xyz", "dump_many", ["atcoords", "atnums"])]

/-- the `required` list a format function declares in the current source (`Gen/ApiRegistry`) -/
def declared (fmt fn : String) : Option (List String) :=
  match Gen.ApiRegistry.registry.find? (fun e => e.name == fmt && e.kind == "format") with
  | none => none
  | some e =>
    match e.fns.find? (fun p => p.1 == fn) with
    | none => none
    | some p => (p.2.find? (fun q => q.1 == "required")).map (·.2)

/-- every dump function still exists and still declares (at least) the pinned required names: the
pre-flight check of `_check_required` therefore covers them (order and additions are free). -/
theorem required_lists_cover_pinned :
    pinnedRequired.all (fun t => match declared t.1 t.2.1 with
      | none => false
      | some names => t.2.2.all (fun n => names.contains n)) = true := by decide +kernel

/-- every dump entry point of the registry is one of the pinned ones (a new dump format must be added to
the cross product of the correspondence before it is covered). -/
theorem dump_entry_points_pinned :
    Gen.ApiRegistry.registry.all (fun e => e.kind != "format" || e.fns.all (fun p =>
      (p.1 != "dump_one" && p.1 != "dump_many") || pinnedRequired.any (fun t => t.1 == e.name && t.2.1 == p.1))) = true := by
  decide +kernel

/-! ### non-vacuity: concrete behaviours evaluated by the kernel -/

/-- xyz-like format, `atcoords` is None, target pre-existing with content `[7,7]`: refused, bytes kept. -/
example :
    let r := runOne Gen.ApiFlow.dumpOne { hasPrepare := false } { attrs := [.none, .val], w := ⟨3, none⟩ } 0
      (fun p => if p = 0 then some [7, 7] else none)
    r.1 = .raised .prepareDump none ∧ r.2.fs 0 = some [7, 7] ∧ r.2.trace = [.getattr] := by decide +kernel

/-- writer raises `ValueError` at the third write: `DumpError`, two tokens in the (truncated) file, closed. -/
example :
    let r := runOne Gen.ApiFlow.dumpOne {} { attrs := [.val], w := ⟨2, some .other⟩ } 0
      (fun p => if p = 0 then some [7, 7] else none)
    r.1 = .raised .dump none ∧ r.2.fs 0 = some [0, 1] ∧
      r.2.trace = [.close, .write 1, .write 0, .openW, .prep, .getattr] := by decide +kernel

/-- dump_many: second frame lacks an attribute — `PrepareDumpError` after the first frame was written. -/
example :
    let r := runMany Gen.ApiFlow.dumpMany {} [{ attrs := [.val], w := ⟨2, none⟩ }, { attrs := [.none] }] 0
      (fun _ => none)
    r.1 = .raised .prepareDump none ∧ r.2.fs 0 = some [0, 1] ∧ r.2.trace.head? = some .close := by decide +kernel

end Iodata.Props.C08
