/-
C10 — basis-function convention conversion is an exact signed permutation.

Property theorems only (helpers live in `Iodata/Lemmas/Conv.lean`).  The model
(`Iodata/Model/Conv.lean`) is tied to `iodata/convert.py` by the correspondence
stream `conv`/`convb`; the built-in tables (`Iodata/Gen/Conventions.lean`) are
regenerated from the source on every run.
-/
import Iodata.Lemmas.Conv
import Iodata.Gen.Conventions
import Mathlib.Data.List.Nodup

namespace Iodata.Props.C10
open Iodata.Conv

variable {β : Type} [DecidableEq β]

/-- 1. The conversion succeeds exactly for conventions naming the same functions, each once. -/
theorem convCore_ok_iff (c1 c2 : List (Bool × β)) (rev : Bool) :
    (∃ r, convCore c1 c2 rev = .ok r) ↔ Compatible c1 c2 := by
  simp [convCore_ok]

/-- 1b. Any other input is rejected with a `ValueError` (never a silent mis-map, never another class). -/
theorem convCore_rejects (c1 c2 : List (Bool × β)) (rev : Bool) (h : ¬ Compatible c1 c2) :
    ∃ e, convCore c1 c2 rev = .error e ∧ e ≠ .keyError := by
  rw [← guards_ok_iff] at h
  unfold convCore
  cases hg : guards c1 c2 with
  | error e => exact ⟨e, rfl, guards_error_ne_key c1 c2 e hg⟩
  | ok u => cases u; exact absurd hg h

/-- 2. Pointwise specification of a successful conversion: the function labelled X in the source
moves to the position labelled X in the target, with the product of the two label signs. -/
theorem convCore_spec (c1 c2 : List (Bool × β)) (r : List (Nat × Int))
    (h : convCore c1 c2 false = .ok r) :
    r.length = c2.length ∧
    ∀ (j : Nat) (hj : j < c2.length) (hr : j < r.length),
      ∃ (hi : (r[j]).1 < c1.length),
        (c1[(r[j]).1]).2 = (c2[j]).2 ∧ (r[j]).2 = sgnB (c1[(r[j]).1]).1 * sgnB (c2[j]).1 := by
  obtain ⟨hc, rfl⟩ := convCore_ok.mp h
  refine ⟨by simp, fun j hj hr => ?_⟩
  obtain ⟨hlt, hlab, hsg⟩ :=
    idxOf_label ((hc.2.2.2 _).mpr (List.mem_map.mpr ⟨c2[j], List.getElem_mem hj, rfl⟩))
  simp only [Bool.false_eq_true, if_false, convFwd, List.getElem_map]
  exact ⟨hlt, hlab, congrArg (· * sgnB (c2[j]).1) hsg⟩

/-- 2b. The permutation part is a permutation: no source position is used twice and all are in range. -/
theorem convCore_perm_nodup (c1 c2 : List (Bool × β)) (r : List (Nat × Int))
    (h : convCore c1 c2 false = .ok r) :
    (r.map Prod.fst).Nodup ∧ ∀ i ∈ r.map Prod.fst, i < c1.length := by
  obtain ⟨hc, rfl⟩ := convCore_ok.mp h
  have hp := (Iodata.Wf.SignedPerm.convFwd hc).perm
  exact ⟨hp.nodup_iff.mpr List.nodup_range, fun i hi => List.mem_range.mp (hp.mem_iff.mp hi)⟩

/-- 3b. `reverse=True` returns exactly the conversion in the opposite direction. -/
theorem conv_reverse (c1 c2 : List (Bool × β)) (r : List (Nat × Int))
    (h : convCore c1 c2 true = .ok r) : convCore c2 c1 false = .ok r := by
  obtain ⟨hc, rfl⟩ := convCore_ok.mp h
  exact convCore_ok.mpr ⟨hc.symm, rfl⟩

/-- 3. There and back is the identity. -/
theorem conv_inverse (c1 c2 : List (Bool × β)) (r r' : List (Nat × Int))
    (h : convCore c1 c2 false = .ok r) (h' : convCore c2 c1 false = .ok r')
    (v : List Int) (hv : v.length = c1.length) :
    apply r' (apply r v) = v := by
  obtain ⟨hc, rfl⟩ := convCore_ok.mp h
  obtain ⟨_, rfl⟩ := convCore_ok.mp h'
  exact apply_convFwd_inverse hc hv

/-- 3c. … and so is converting with the `reverse` flag. -/
theorem conv_reverse_inverse (c1 c2 : List (Bool × β)) (r r' : List (Nat × Int))
    (h : convCore c1 c2 false = .ok r) (h' : convCore c1 c2 true = .ok r')
    (v : List Int) (hv : v.length = c1.length) :
    apply r' (apply r v) = v :=
  conv_inverse c1 c2 r r' h (conv_reverse c1 c2 r' h') v hv

/-- 4. A → B → C equals A → C. -/
theorem conv_compose (c1 c2 c3 : List (Bool × β)) (r12 r23 r13 : List (Nat × Int))
    (h12 : convCore c1 c2 false = .ok r12) (h23 : convCore c2 c3 false = .ok r23)
    (h13 : convCore c1 c3 false = .ok r13) (v : List Int) :
    apply r23 (apply r12 v) = apply r13 v := by
  obtain ⟨hc12, rfl⟩ := convCore_ok.mp h12
  obtain ⟨hc23, rfl⟩ := convCore_ok.mp h23
  obtain ⟨_, rfl⟩ := convCore_ok.mp h13
  exact apply_convFwd_compose hc12 hc23 v

/-- 4b. If A→B and B→C succeed then A→C succeeds (composition never needs a rejected conversion). -/
theorem conv_compose_defined (c1 c2 c3 : List (Bool × β))
    (h12 : ∃ r, convCore c1 c2 false = .ok r) (h23 : ∃ r, convCore c2 c3 false = .ok r) :
    ∃ r, convCore c1 c3 false = .ok r :=
  (convCore_ok_iff c1 c3 false).mpr
    (((convCore_ok_iff c1 c2 false).mp h12).trans ((convCore_ok_iff c2 c3 false).mp h23))

/-- 5. The basis-level conversion is the concatenation of the shell-level conversions,
each shifted by the number of functions before it (for any shell list, incl. generalized
contractions, because `keys` is the flattened `(angmom, kind)` list).  (5b, offsets only shift, is
`convBasisFrom_shift` in `Lemmas/Conv.lean`.) -/
theorem convBasisFrom_cons (t1 t2 : Table) (rev : Bool) (off : Nat) (k : Key) (ks : List Key)
    (c1 c2 : List Label) (r rest : List (Nat × Int))
    (h1 : lookup t1 k = .ok c1) (h2 : lookup t2 k = .ok c2)
    (hr : convShell c1 c2 rev = .ok r)
    (hrest : convBasisFrom t1 t2 rev (off + r.length) ks = .ok rest) :
    convBasisFrom t1 t2 rev off (k :: ks) = .ok (r.map (shift off) ++ rest) := by
  simp [convBasisFrom, h1, h2, hr, hrest]

/-- 5c. A missing key is a `KeyError`, raised at the first shell that needs it. -/
theorem convBasis_missing_key (t1 t2 : Table) (rev : Bool) (off : Nat) (k : Key) (ks : List Key)
    (h : lookup t1 k = .error .keyError) :
    convBasisFrom t1 t2 rev off (k :: ks) = .error .keyError := by
  simp [convBasisFrom, h]

/-- 5d. Basis level: converting a whole basis there and back is the identity, for every shell
list (any number of shells, generalized contractions included) and any pair of tables. -/
theorem convBasis_inverse (t1 t2 : Table) (keys : List Key) :
    ∀ (r r' : List (Nat × Int)), convBasis t1 t2 keys false = .ok r → convBasis t2 t1 keys false = .ok r' →
      ∀ (v : List Int), v.length = r.length → apply r' (apply r v) = v := by
  induction keys with
  | nil =>
    intro r r' h h' v hv
    cases h; cases h'
    rw [List.eq_nil_of_length_eq_zero hv]; rfl
  | cons k ks ih =>
    intro r r' h h' v hv
    obtain ⟨c1, c2, rest, hl1, hl2, hc, hb, rfl⟩ := convBasis_cons_ok h
    obtain ⟨d2, d1, rest', hl2', hl1', _, hb', rfl⟩ := convBasis_cons_ok h'
    cases hl1.symm.trans hl1'; cases hl2.symm.trans hl2'
    have hn : c1.length = c2.length := by simpa using hc.1
    have hv' : (v.drop c1.length).length = rest.length := by simp at hv ⊢; omega
    have hv1 : (v.take c1.length).length = (c1.map parse).length := by simp at hv ⊢; omega
    -- both conversions act block by block; the first block has `c1.length = c2.length` entries
    rw [apply_shell_block hc, apply_shell_block hc.symm,
      List.take_left' (by simp [hn]), List.drop_left' (by simp [hn]), apply_convFwd_inverse hc hv1,
      ih rest rest' hb hb' _ hv', List.take_append_drop]

/-- 5e. Basis level: A → B → C equals A → C for every shell list and any three tables. -/
theorem convBasis_compose (t1 t2 t3 : Table) (keys : List Key) :
    ∀ (r12 r23 r13 : List (Nat × Int)), convBasis t1 t2 keys false = .ok r12 →
      convBasis t2 t3 keys false = .ok r23 → convBasis t1 t3 keys false = .ok r13 →
      ∀ (v : List Int), v.length = r12.length → apply r23 (apply r12 v) = apply r13 v := by
  induction keys with
  | nil =>
    intro r12 r23 r13 h12 h23 h13 v _
    cases h12; cases h23; cases h13; rfl
  | cons k ks ih =>
    intro r12 r23 r13 h12 h23 h13 v hv
    obtain ⟨c1, c2, q12, hl1, hl2, hc12, hb12, rfl⟩ := convBasis_cons_ok h12
    obtain ⟨d2, c3, q23, hl2', hl3, hc23, hb23, rfl⟩ := convBasis_cons_ok h23
    obtain ⟨d1, d3, q13, hl1', hl3', _, hb13, rfl⟩ := convBasis_cons_ok h13
    cases hl1.symm.trans hl1'; cases hl2.symm.trans hl2'; cases hl3.symm.trans hl3'
    have hn : c1.length = c2.length := by simpa using hc12.1
    have hv' : (v.drop c1.length).length = q12.length := by simp at hv ⊢; omega
    rw [apply_shell_block hc12, apply_shell_block hc23, apply_shell_block (hc12.trans hc23),
      List.take_left' (by simp [hn]), List.drop_left' (by simp [hn]), apply_convFwd_compose hc12 hc23,
      ih q12 q23 q13 hb12 hb23 hb13 _ hv']

/-- The one evaluation of the built-in tables (on label codes, see `entryCheck`), from which 6 and 6b follow. -/
theorem tables_checked : Iodata.Gen.Conventions.allTables.all
    (fun t => t.2.all entryCheck && decide ((t.2.map (·.1)).Nodup)) = true := by
  decide +kernel

/-- 6. Every entry of every built-in convention table lists each function of its shell type
exactly once (monomials of degree l / `c0, c1, s1, …, cl, sl`), and no key occurs twice. -/
theorem tables_wellformed : Iodata.Gen.Conventions.allTables.all (fun t => wellFormedTable t.2) = true := by
  have h := tables_checked
  simp only [List.all_eq_true, Bool.and_eq_true, wellFormedTable] at h ⊢
  exact fun t ht => ⟨fun e he => (entryCheck_spec ((h t ht).1 e he)).1, (h t ht).2⟩

/-- Cartesian functions of degree `l` in alphabetical order (`iter_cart_alphabet`): `x^nx y^ny z^nz`, `nx` descending,
then `ny` descending.  For `l ≥ 1` this is the list the model's `cartLabels l` enumerates (at `l = 0` the model has
`['1']`, this has the empty label); no lemma links the two, so 6 speaks of `cartLabels` and
`default_tables_closed_form` of this definition. -/
def cartAlphabet (l : Nat) : List Label :=
  (List.range (l + 1)).reverse.flatMap fun nx =>
    (List.range (l - nx + 1)).reverse.map fun ny =>
      List.replicate nx 'x' ++ List.replicate ny 'y' ++ List.replicate (l - nx - ny) 'z'

/-- decimal digits of `n` (labels such as `c10`, `s24`) -/
def numChars (n : Nat) : List Char := (Nat.toDigits 10 n)

/-- HORTON2 pure functions: `c0, c1, s1, …, cl, sl` (the model's `pureLabels`, with the digits from `Nat.toDigits`
where the model goes through `toString`; not linked by a lemma) -/
def horton2Pure (l : Nat) : List Label :=
  ['c', '0'] :: (List.range l).flatMap fun i => ['c' :: numChars (i + 1), 's' :: numChars (i + 1)]

/-- CCA pure functions: `sl, …, s1, c0, c1, …, cl` (m = −l … l) -/
def ccaPure (l : Nat) : List Label :=
  ((List.range l).reverse.map fun i => 's' :: numChars (i + 1)) ++ [['c', '0']]
    ++ (List.range l).map fun i => 'c' :: numChars (i + 1)

/-- a default table up to `lmax`: `(0,c) = [1]`, `(1,c)`, and for `l ≥ 2` the Cartesian and the pure entry -/
def defaultTable (pure : Nat → List Label) (lmax : Nat) : Table :=
  ((0, 'c'), [['1']]) :: (List.range lmax).flatMap fun i =>
    let l := i + 1
    if l = 1 then [((1, 'c'), cartAlphabet 1)] else [((l, 'c'), cartAlphabet l), ((l, 'p'), pure l)]

/-- **default_tables_closed_form.**  `HORTON2_CONVENTIONS` and `CCA_CONVENTIONS` as the module builds them (regenerated
from the imported module on every run, every angular momentum 0..24) are exactly their closed forms: alphabetical
Cartesian monomials, `c0 c1 s1 … cl sl` resp. `sl … s1 c0 c1 … cl` — in particular every entry is complete (2l+1 resp.
(l+1)(l+2)/2 functions) for two-digit `l` as well. -/
theorem default_tables_closed_form :
    Iodata.Gen.Conventions.horton2Full = defaultTable horton2Pure 24 ∧
    Iodata.Gen.Conventions.ccaFull = defaultTable ccaPure 24 := by
  have hc : cartAlphabet = cartRec := funext fun l => (cartRec_eq l).symm
  unfold defaultTable
  rw [hc]
  -- one evaluation, so that the Cartesian entries the two tables share are computed once; `==` on lists
  -- costs the kernel less than the `Decidable` instance of `=`
  apply (and_congr beq_iff_eq beq_iff_eq).mp
  rw [← Bool.and_eq_true]
  decide +kernel

example : ccaPure 2 = [['s','2'], ['s','1'], ['c','0'], ['c','1'], ['c','2']] ∧ (ccaPure 10).length = 21 ∧
    (cartAlphabet 24).length = 325 := by decide +kernel

/-- 6b. For every ordered pair of built-in tables and every key they share, the shell conversion
succeeds in both directions. -/
theorem tables_pairwise :
    Iodata.Gen.Conventions.allTables.all (fun a =>
      Iodata.Gen.Conventions.allTables.all (fun b =>
        a.2.all (fun e => match lookup b.2 e.1 with
          | .ok c2 => (match convShell e.2 c2 false with | .ok _ => true | .error _ => false)
                      && (match convShell e.2 c2 true with | .ok _ => true | .error _ => false)
          | .error _ => true))) = true := by
  have h := tables_checked
  simp only [List.all_eq_true, Bool.and_eq_true] at h ⊢
  intro a ha b hb e he
  cases hl : lookup b.2 e.1 with
  | error _ => rfl
  | ok c2 =>
    -- both entries list the functions of the shell type `e.1`, so their conventions are compatible
    have hc := (entryCheck_spec ((h a ha).1 e he)).2.compatible
      (entryCheck_spec ((h b hb).1 _ (lookup_ok_mem hl))).2
    obtain ⟨r, hr⟩ := (convCore_ok_iff _ _ false).mpr hc
    obtain ⟨r', hr'⟩ := (convCore_ok_iff _ _ true).mpr hc
    simp [convShell, hr, hr']

/-- ORCA's `(3,'p')` entry (with `-c3, -s3`) against Molden's: hypotheses are satisfiable and the
result carries the sign flips. -/
example : convShell (["c0","c1","s1","c2","s2","-c3","-s3"].map String.toList)
    (["c0","c1","s1","c2","s2","c3","s3"].map String.toList) false
    = .ok [(0,1),(1,1),(2,1),(3,1),(4,1),(5,-1),(6,-1)] := by decide +kernel

example : convShell (["xx","xy","xz","yy","yz","zz"].map String.toList)
    (["xx","yy","zz","xy","xz","yz"].map String.toList) false
    = .ok [(0,1),(3,1),(5,1),(1,1),(2,1),(4,1)] := by decide +kernel

example : convShell (["xx","xy"].map String.toList) (["xx","xx"].map String.toList) false
    = .error .dup2 := by decide +kernel

end Iodata.Props.C10
